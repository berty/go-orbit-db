import OrbitModel.Proofs.IndexScan
/-!
# The document index (as fixed) equals replay; the pinned one does not

`documentIndex.UpdateIndex` scans newest → oldest with a `handled` set; a PUTALL is scanned member
by member *in forward order*, so within one PUTALL the first member of a key wins in the index
while the last one wins in a replay: the two agree because a PUTALL is built from a Go map, whose
keys are unique (`DocWF`).
-/
namespace Orbit

/-- member keys of every PUTALL are unique (it is built from a Go map) -/
def DocWF (vs : List Entry) : Prop :=
  ∀ e ∈ vs, ∀ docs, e.op = .putAll docs → (docs.map (·.1)).Nodup

/-- the operation writes document key `k` (PUT/DEL of the empty key write nothing) -/
def docOpWrites : Op → String → Prop
  | .put k' _, k => k' = k ∧ k ≠ ""
  | .del k', k => k' = k ∧ k ≠ ""
  | .putAll docs, k => k ∈ docs.map (·.1)
  | _, _ => False

def docMentions (vs : List Entry) (k : String) : Prop := ∃ e ∈ vs, docOpWrites e.op k

def docWop : Op → List Wr
  | .put k v => if k == "" then [] else [(k, some v)]
  | .del k => if k == "" then [] else [(k, none)]
  | .putAll docs => docs.map (fun d => (d.1, some d.2))
  | _ => []

def docW (e : Entry) : List Wr := docWop e.op

theorem docReplayStep_eq (m : KV) (e : Entry) : docReplayStep m e = (docW e).foldl applyW m := by
  unfold docReplayStep docW
  cases e.op with
  | put k v | del k => rw [docWop, apply_ite (List.foldl applyW m)]; rfl
  | putAll docs => rw [docWop, List.foldl_map]; rfl
  | _ => rfl

theorem docReplay_eq (vs : List Entry) : docReplay vs = replayW docW vs :=
  foldl_eq_flat docReplayStep applyW docW vs [] (fun e _ acc => docReplayStep_eq acc e)

theorem docStep_eq (acc : List String × KV) (e : Entry) :
    docStepWith docAllStep acc e = (docW e).foldl wStep acc := by
  unfold docStepWith docW
  cases e.op with
  | put k v | del k => rw [docWop, apply_ite (List.foldl wStep acc)]; rfl
  | putAll docs => rw [docWop, List.foldl_map]; rfl
  | _ => rfl

theorem docUpdate_eq (idx : KV) (vs : List Entry) : docUpdate idx vs = scanW docW idx vs := by
  unfold docUpdate docUpdateWith scanW
  rw [foldl_eq_flat (docStepWith docAllStep) wStep docW vs.reverse ([], idx)
    (fun e _ acc => docStep_eq acc e)]

theorem docW_keys (e : Entry) (k : String) : k ∈ (docW e).map (·.1) ↔ docOpWrites e.op k := by
  unfold docW
  cases e.op with
  | put k' v | del k' =>
    simp only [docWop, docOpWrites, beq_iff_eq]
    split
    · next h => exact ⟨nofun, fun h' => absurd (h ▸ h'.1).symm h'.2⟩
    · next h =>
      exact ⟨fun h' => by rw [List.mem_singleton.mp h']; exact ⟨rfl, h⟩,
        fun h' => List.mem_singleton.mpr h'.1.symm⟩
  | putAll docs => simp only [docWop, docOpWrites, List.map_map]; rfl
  | _ => exact ⟨nofun, nofun⟩

theorem nodupW_docW {vs : List Entry} (hwf : DocWF vs) : NodupW docW vs := by
  intro e he
  unfold docW
  cases ho : e.op with
  | put k v | del k => rw [docWop]; split <;> simp
  | putAll docs => rw [docWop, List.map_map]; exact hwf e he docs ho
  | _ => exact List.nodup_nil

theorem docUpdate_eq_replay (idx : KV) (vs : List Entry) (hwf : DocWF vs)
    (hpre : ∀ k, (KV.get idx k).isSome → docMentions vs k) :
    KV.equiv (docUpdate idx vs) (docReplay vs) := by
  rw [docUpdate_eq, docReplay_eq]
  refine scanW_eq_replayW docW idx vs (nodupW_docW hwf) (fun k hk => ?_)
  obtain ⟨e, he, hw⟩ := hpre k hk
  exact ⟨e, he, (docW_keys e k).mpr hw⟩

private def mk (h : Nat) (nx : List Nat) (o : Op) : Entry :=
  { hash := h, logId := 1, time := h, cid := 0, next := nx, op := o }

/-- Finding F1: the pinned `UpdateIndex` marks `handled[""]` for a PUTALL member instead of the member's
key: an older PUT of the same document overrides a newer PUTALL, and a document deleted and re-added
by PUTALL stays deleted. -/
theorem docPinned_witness :
    let a : Entry := { hash := 1, logId := 1, time := 1, cid := 0, next := [], op := .put "k" "v1" }
    let b : Entry := { hash := 2, logId := 1, time := 2, cid := 0, next := [1], op := .putAll [("k", "v2")] }
    let zs : List Entry :=
      [mk 1 [] (.putAll [("z", "a")]), mk 2 [1] (.del "z"), mk 3 [2] (.putAll [("z", "b")])]
    (KV.get (docUpdatePinned [] [a, b]) "k" = some "v1" ∧ KV.get (docReplay [a, b]) "k" = some "v2"
      ∧ KV.get (docUpdate [] [a, b]) "k" = some "v2") ∧
    (KV.get (docUpdatePinned [] zs) "z" = none ∧ KV.get (docReplay zs) "z" = some "b"
      ∧ KV.get (docUpdate [] zs) "z" = some "b") := by
  decide +kernel

/-- `DocWF` is necessary: with a repeated member key the scan keeps the first member, replay the
last (cannot arise from a Go map) -/
theorem docUpdate_dupKey_witness :
    KV.get (docUpdate [] [mk 1 [] (.putAll [("k", "x"), ("k", "y")])]) "k" = some "x" ∧
    KV.get (docReplay [mk 1 [] (.putAll [("k", "x"), ("k", "y")])]) "k" = some "y" := by
  decide

private def exVs : List Entry :=
  [mk 1 [] (.put "a" "1"), mk 2 [1] (.putAll [("b", "2"), ("a", "3")]), mk 3 [2] (.del "b"),
   mk 4 [3] (.put "" "ignored"), mk 5 [4] (.putAll [("c", "4")])]
private def exIdx : KV := [("a", "1"), ("b", "2")]

example : KV.equiv (docUpdate exIdx exVs) (docReplay exVs) := by
  apply docUpdate_eq_replay
  · intro e he docs ho
    simp only [exVs, List.mem_cons, List.not_mem_nil, or_false] at he
    rcases he with rfl | rfl | rfl | rfl | rfl <;> cases ho <;> decide
  · intro k hk
    simp only [exIdx, KV.get_cons, KV.get_nil] at hk
    split at hk
    · next h => exact h ▸ ⟨mk 1 [] (.put "a" "1"), List.mem_cons_self, rfl, by decide⟩
    · split at hk
      · next h =>
        exact h ▸ ⟨mk 2 [1] (.putAll [("b", "2"), ("a", "3")]), List.mem_cons_of_mem _ List.mem_cons_self,
          List.mem_cons_self⟩
      · cases hk

example : KV.get (docUpdate exIdx exVs) "a" = some "3" ∧ KV.get (docUpdate exIdx exVs) "b" = none ∧
    KV.get (docUpdate exIdx exVs) "c" = some "4" ∧ KV.get (docUpdate exIdx exVs) "" = none := by
  decide

/-- `docUpdate` does not clear the index it is handed: a stale document not written by the listing
survives (`UpdateIndex` before the `fix:` commit of F45) -/
theorem docUpdate_stale_witness :
    KV.get (docUpdate [("stale", "x")] [mk 1 [] (.put "a" "1")]) "stale" = some "x" ∧
    KV.get (docReplay [mk 1 [] (.put "a" "1")]) "stale" = none ∧
    ¬ docMentions [mk 1 [] (.put "a" "1")] "stale" := by
  refine ⟨by decide, by decide, ?_⟩
  rintro ⟨e, he, hk⟩
  simp only [List.mem_cons, List.not_mem_nil, or_false] at he
  subst he
  simp [mk, docOpWrites] at hk

theorem isInfix_iff (needle hay : List Char) : isInfix needle hay = true ↔ needle <:+: hay := by
  induction hay with
  | nil => simp [isInfix, List.infix_nil]
  | cons c t ih =>
    rw [isInfix, Bool.or_eq_true, List.isPrefixOf_iff_prefix, ih, List.infix_cons_iff]

theorem docGetKeys_spec (idx : KV) (key : String) (ci pm : Bool) (k : String) :
    k ∈ docGetKeys idx key ci pm ↔ k ∈ idx.keys ∧
      (if pm then
        (if ci then lowerAscii key else key).toList <:+: (if ci then lowerAscii k else k).toList
       else (if ci then lowerAscii k else k) = (if ci then lowerAscii key else key)) := by
  unfold docGetKeys
  cases pm <;> simp [strContains, isInfix_iff]

theorem docGetKeys_exact (idx : KV) (key k : String) :
    k ∈ docGetKeys idx key false false ↔ k ∈ idx.keys ∧ k = key := by
  simp [docGetKeys_spec]

theorem docGetKeys_caseInsensitive (idx : KV) (key k : String) :
    k ∈ docGetKeys idx key true false ↔ k ∈ idx.keys ∧ lowerAscii k = lowerAscii key := by
  simp [docGetKeys_spec]

theorem docGetKeys_partial (idx : KV) (key k : String) :
    k ∈ docGetKeys idx key false true ↔ k ∈ idx.keys ∧ key.toList <:+: k.toList := by
  simp [docGetKeys_spec]

theorem docGetKeys_partial_caseInsensitive (idx : KV) (key k : String) :
    k ∈ docGetKeys idx key true true ↔
      k ∈ idx.keys ∧ (lowerAscii key).toList <:+: (lowerAscii k).toList := by
  simp [docGetKeys_spec]

example : docGetKeys [("Doc1", "x"), ("doc2", "y"), ("other", "z")] "oc" false true = ["Doc1", "doc2"] := by
  decide +kernel

end Orbit
