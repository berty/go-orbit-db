import OrbitModel.Model.ViewRace
import OrbitModel.Proofs.ListSet
/-!
# With the copy taken under the lock the view never lags behind a returned write   (F19)
-/
namespace Orbit.View

/-- Invariant of the repaired protocol (`locked := true`: nobody is ever in `copied`). The last clause
of `bounds` is the property: every writer that has returned finds its entry in the view. -/
structure Inv (s : St) : Prop where
  view_le : s.view ≤ s.logLen
  bounds  : ∀ pc ∈ s.pcs, (∀ e, pc = .appended e → e ≤ s.logLen) ∧ (∀ e k, pc ≠ .copied e k) ∧
              (∀ e, pc = .done e → e ≤ s.view)

theorem inv_init (n : Nat) : Inv (init n) :=
  ⟨Nat.le_refl _, fun pc hpc => by cases (List.mem_replicate.mp hpc).2; exact ⟨nofun, nofun, nofun⟩⟩

/-- `Inv`, and the view is complete unless some writer is between its append and its update of the view
(the clause `view_complete_when_all_returned` reads off) -/
def FreshInv (s : St) : Prop := Inv s ∧ (s.view = s.logLen ∨ ∃ e, .appended e ∈ s.pcs)

theorem freshInv_step (s : St) (i : Nat) (h : FreshInv s) : FreshInv (step true s i) := by
  obtain ⟨hi, hl⟩ := h
  unfold step
  cases hpc : s.pcs[i]? with
  | none => exact ⟨hi, hl⟩
  | some pc =>
    obtain ⟨hlt, rfl⟩ := List.getElem?_eq_some_iff.mp hpc
    have hb := hi.bounds _ (List.getElem_mem hlt)
    cases hpc' : s.pcs[i] with
    | done e => exact ⟨hi, hl⟩
    | copied e k => exact absurd hpc' (hb.2.1 e k)
    | start =>
      -- the writer appends: the log grows by one entry, which it now owes the view
      refine ⟨⟨Nat.le_succ_of_le hi.view_le, List.forall_mem_set ?_ ?_ i⟩, .inr ⟨_, List.mem_set hlt _⟩⟩
      · exact ⟨fun e he => by cases he; exact Nat.le_refl _, nofun, nofun⟩
      · exact fun pc h => ⟨fun e he => Nat.le_succ_of_le ((hi.bounds pc h).1 e he), (hi.bounds pc h).2⟩
    | appended e =>
      -- the writer sets the view to the log as it is, under the lock: the view is complete
      refine ⟨⟨Nat.le_refl _, List.forall_mem_set ?_ ?_ i⟩, .inl rfl⟩
      · exact ⟨nofun, nofun, fun e' he => by cases he; exact hb.1 e hpc'⟩
      · exact fun pc h => ⟨(hi.bounds pc h).1, (hi.bounds pc h).2.1,
          fun e' he => Nat.le_trans ((hi.bounds pc h).2.2 e' he) hi.view_le⟩

theorem freshInv_run (n : Nat) (sched : List Nat) : FreshInv (run true (init n) sched) :=
  List.foldlRecOn sched _ ⟨inv_init n, .inl rfl⟩ fun s h i _ => freshInv_step s i h

theorem view_complete_when_all_returned (n : Nat) (sched : List Nat)
    (hd : allDone (run true (init n) sched) = true) :
    (run true (init n) sched).view = (run true (init n) sched).logLen :=
  (freshInv_run n sched).2.resolve_right fun ⟨_, he⟩ => by simpa using List.all_eq_true.mp hd _ he

/-- Refutation witness for the tree before the repair (finding F19): writer 0 appends and copies the
log (1 entry), writer 1 appends, copies (2 entries) and writes, writer 0 writes its older copy last:
both have returned, the log has 2 entries and the view reflects 1. -/
theorem unlocked_copy_leaves_a_stale_view :
    let s := run false (init 2) [0, 0, 1, 1, 1, 0]
    allDone s = true ∧ s.logLen = 2 ∧ s.view = 1 := by decide

/-- the same schedule after the repair -/
example : let s := run true (init 2) [0, 0, 1, 1, 1, 0]
    allDone s = true ∧ s.logLen = 2 ∧ s.view = 2 := by decide

end Orbit.View
