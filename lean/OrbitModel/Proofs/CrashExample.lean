import OrbitModel.Proofs.CrashCor
/-!
# A concrete two-writer history with a merge: `ValidHist` is satisfiable, the cut points behave   (C05)

Writer 0 (this replica) writes `a` then `b`; writer 1 wrote `c` on top of `a` concurrently with `b`.
The replicator fetches `c` and hands the remote log `[a, c]` (heads `[c]`) to
`replicationLoadComplete`.
-/
namespace Orbit.CrashExample

def a : Entry := { hash := 1, logId := 9, time := 1, cid := 0, next := [] }
def b : Entry := { hash := 2, logId := 9, time := 2, cid := 0, next := [1] }
def c : Entry := { hash := 3, logId := 9, time := 2, cid := 1, next := [1] }
def U : List Entry := [a, b, c]
def acl : Acl := { wildcard := true }

theorem hU : HashDet U := by unfold HashDet; decide
theorem hM : ClockMono U := by unfold ClockMono; decide

def L0 : Log := Log.empty 9
def L1 : Log := (append acl.canAppend L0 (fun _ _ => a)).1
def L2 : Log := (append acl.canAppend L1 (fun _ _ => b)).1
def batch : List (OMap × OMap) := [([a, c], [c])]
def L3 : Log := joinAll acl L2 batch

def ops : List SOp :=
  [.write a, .write b, .fetched c, .merged (joinedEntries acl L2 batch) ((sortedHeads L3).map (·.hash))]

def T : List Eff := trace ops

theorem valid : ValidHist acl U 9 ops L3 := by
  have v1 : ValidHist acl U 9 [.write a] L1 :=
    ValidHist.write (fun _ _ => a) ValidHist.nil (by decide +kernel) (fun _ => by decide +kernel)
  have v2 : ValidHist acl U 9 [.write a, .write b] L2 :=
    ValidHist.write (fun _ _ => b) v1 (by decide +kernel) (fun _ => by decide +kernel)
  have v3 : ValidHist acl U 9 [.write a, .write b, .fetched c] L2 := ValidHist.fetched c v2
  exact ValidHist.merged batch L3 v3
    ⟨batchHonest_iff.mpr (by decide +kernel), by decide +kernel, by decide +kernel⟩ rfl (by decide +kernel)

theorem trace_eq : T =
    [.block 1, .cacheLocal [1], .ack 1,           -- write a
     .block 2, .cacheLocal [2], .ack 2,           -- write b
     .block 3,                                    -- fetched c
     .cacheRemote [3, 2], .replicated [1, 3]] := by decide +kernel

/-- crash after the `block` and before the `cacheLocal` of `write b`: the previous state -/
example : T.take 4 = [.block 1, .cacheLocal [1], .ack 1, .block 2] ∧
    recover U (diskOf (T.take 4)) = [1] := by decide

/-- crash after the `cacheLocal` of `write b` (before or after the `ack`): `b` is recovered -/
example : recover U (diskOf (T.take 5)) = [1, 2] ∧ recover U (diskOf (T.take 6)) = [1, 2] := by
  decide

/-- crash after `c` was fetched and before `_remoteHeads` is written: `c` is on disk, not recovered -/
example : 3 ∈ (diskOf (T.take 7)).blocks ∧ recover U (diskOf (T.take 7)) = [1, 2] := by decide

/-- crash after `_remoteHeads` is written (before or after `replicated`): everything -/
example : recover U (diskOf (T.take 8)) = [3, 1, 2] ∧ recover U (diskOf T) = [3, 1, 2] := by decide +kernel

/-- the theorem applies to every cut of this history -/
example (n : Nat) :=
  crash_recovers hU hM valid (T.take n) (List.take_prefix n T)

/-- and `_remoteHeads` was written after the blocks of `c`, `b` and their ancestor `a` -/
example : ∀ h ∈ [3, 2], ∀ x, Anc U h x → Eff.block x ∈ (T.take 7) :=
  blocks_before_heads hU hM valid _ [.replicated [1, 3]] [3, 2] (.cacheRemote [3, 2]) (Or.inr rfl) trace_eq

/-! A history with a rejected log in the batch: it is skipped, the rest is merged and cached. -/

def bad : Entry := { hash := 5, logId := 9, time := 1, cid := 2, next := [], ident := 7 }
def d : Entry := { hash := 4, logId := 9, time := 3, cid := 0, next := [3] }
def U' : List Entry := [a, c, bad, d]
def acl' : Acl := { ids := [0] }

theorem hU' : HashDet U' := by unfold HashDet; decide
theorem hM' : ClockMono U' := by unfold ClockMono; decide
theorem hT' : TieFree U' := by unfold TieFree; decide

def K1 : Log := (append acl'.canAppend L0 (fun _ _ => a)).1
def batch' : List (OMap × OMap) := [([bad], [bad]), ([a, c], [c])]
/-- `[bad]` is refused and skipped, `[a, c]` is merged -/
def K2 : Log := joinAll acl' K1 batch'
def K3 : Log := (append acl'.canAppend K2 (fun _ _ => d)).1
def ops' : List SOp :=
  [.write a, .fetched c, .fetched bad,
   .merged (joinedEntries acl' K1 batch') ((sortedHeads K2).map (·.hash)), .write d]

theorem valid' : ValidHist acl' U' 9 ops' K3 := by
  have v1 : ValidHist acl' U' 9 [.write a] K1 :=
    ValidHist.write (fun _ _ => a) ValidHist.nil (by decide +kernel) (fun _ => by decide +kernel)
  have v2 : ValidHist acl' U' 9 [.write a, .fetched c, .fetched bad] K1 :=
    ValidHist.fetched bad (ValidHist.fetched c v1)
  have v3 := ValidHist.merged batch' K2 v2
    ⟨batchHonest_iff.mpr (by decide +kernel), by decide +kernel, by decide +kernel⟩ rfl (by decide +kernel)
  exact ValidHist.write (fun _ _ => d) v3 (by decide +kernel) (fun _ => by decide +kernel)

/-- the first join is rejected, the second is done; only the entries of the second are reported;
`_remoteHeads` is written although a log was rejected, so a crash right after it recovers `c` -/
example : (join acl'.canAppend K1 [bad] [bad] K1.id matches .error .denied) = true ∧
    K2.entries.map (·.hash) = [1, 3] ∧
    trace ops' = [.block 1, .cacheLocal [1], .ack 1, .block 3, .block 5,
                  .cacheRemote [3], .replicated [1, 3],
                  .block 4, .cacheLocal [4], .ack 4] ∧
    recover U' (diskOf ((trace ops').take 5)) = [1] ∧
    recover U' (diskOf ((trace ops').take 6)) = [3, 1] ∧
    recover U' (diskOf (trace ops')) = [1, 3, 4] := by decide +kernel

example (n : Nat) :=
  crash_recovers hU' hM' valid' ((trace ops').take n) (List.take_prefix n _)

/-- `ops'`: write `a`; fetch `c` and `bad`; `replicationLoadComplete` of `[[bad], [a, c]]`, where
`[bad]` is rejected and skipped; write `d`. -/
theorem summary_applies :
    ValidHist acl' U' 9 ops' K3 ∧
    (join acl'.canAppend K1 [bad] [bad] K1.id matches .error .denied) = true ∧
    trace ops' = [.block 1, .cacheLocal [1], .ack 1, .block 3, .block 5,
                  .cacheRemote [3], .replicated [1, 3], .block 4, .cacheLocal [4], .ack 4] ∧
    (∀ n, ∀ h, Eff.ack h ∈ (trace ops').take n → h ∈ recover U' (diskOf ((trace ops').take n))) ∧
    recover U' (diskOf ((trace ops').take 7)) = [3, 1] :=
  ⟨valid', by decide, by decide +kernel,
    fun n => (acknowledged_survive_any_crash hU' hT' hM' valid' _ (List.take_prefix n _)).1,
    by decide +kernel⟩

/-! ### Why `BatchOk.parents` is assumed: an accepted child whose parent is rejected

`e` (authorised) names `bad'` (unauthorised) as its parent. When the two arrive as separate logs
(the replicator buffers one log per fetched entry), `[bad']` is skipped and `e` is merged with a
dangling `next` link: the log is not closed under `next`, `BatchOk.parents` fails. The blocks of both
are on disk, so following the links from the cached head reaches `bad'`, which the log never held:
the recovered set is not a part of the pre-crash log (conclusion (iv) of `crash_recovers` fails), and
`Load` as it was before the `fix:` commit of F29, which joined everything reachable from the head as one
log, had that join refused and lost `e`, although `e` was reported as replicated. -/

def bad' : Entry := { hash := 5, logId := 9, time := 2, cid := 2, next := [1], ident := 7 }
def e : Entry := { hash := 6, logId := 9, time := 3, cid := 1, next := [5] }
def U'' : List Entry := [a, bad', e]
def batch'' : List (OMap × OMap) := [([e], [e]), ([bad'], [bad'])]
def M2 : Log := joinAll acl' K1 batch''
def T'' : List Eff := trace [.write a, .fetched e, .fetched bad',
  .merged (joinedEntries acl' K1 batch'') ((sortedHeads M2).map (·.hash))]

theorem rejected_parent_merged :
    HashDet U'' ∧ ClockMono U'' ∧ M2.entries = [a, e] ∧ joinedEntries acl' K1 batch'' = [e] ∧
    ¬ Closed M2 ∧
    ¬ (∀ p ∈ batch'', ∀ x ∈ p.1, x ∈ M2.entries → ∀ n ∈ x.next, has M2.entries n = true) := by
  unfold HashDet ClockMono Closed; decide +kernel

theorem rejected_parent_recovered :
    T'' = [.block 1, .cacheLocal [1], .ack 1, .block 6, .block 5, .cacheRemote [6, 1], .replicated [6]] ∧
    recover U'' (diskOf T'') = [5, 6, 1] ∧ has M2.entries 5 = false := by decide +kernel

/-- `Load` after that crash, as it was before the `fix:` commit of F29 (the fetched log goes to `Join`
unfiltered): the log fetched from the cached head `e` contains `bad'`, its join is refused and ignored;
`e` is not loaded. Through `goodFetch`, as in `Store.load`, `e` comes back. -/
theorem rejected_parent_load :
    ((loadHeads acl' (fun h => if h = 6 then [e, bad', a] else [a]) (-1) (Log.empty 9) [1, 6]).map
      (·.entries) |>.toOption) = some [a] := by decide

/-- the rejected parent in the *same* log as the child: the whole log is rejected, the log stays closed
(`joinAll_closed`) -/
theorem rejected_parent_same_log :
    (joinAll acl' K1 [([e, bad'], [e])]).entries = K1.entries ∧ joinedEntries acl' K1 [([e, bad'], [e])] = [] := by
  decide

end Orbit.CrashExample
