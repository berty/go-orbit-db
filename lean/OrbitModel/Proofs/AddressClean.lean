import OrbitModel.Model.Path
/-!
# `path.Clean` on segment lists: when does a name stay below the manifest root?   (C14)

`cleanAbs` interprets `""`, `"."` (skip) and `".."` (pop) segment by segment. A name joined below
`/orbitdb/<h>` keeps the prefix `["orbitdb", h]` when its `..` never outnumber the plain segments
before them (`staysBelow`, `clean_below`). Otherwise the root `h` is erased: the cleaned path does not
depend on `h` at all (`clean_escape`), it is whatever the rest of the name spells below `/orbitdb` —
which may be `h` again.
-/
namespace Orbit.Path

/-- a segment `path.Clean` keeps as it is -/
def Plain (s : String) : Prop := s ≠ "" ∧ s ≠ "." ∧ s ≠ ".."

instance (s : String) : Decidable (Plain s) := by unfold Plain; exact inferInstance

theorem cleanStep_skip {st : List String} {s : String} (h : s = "" ∨ s = ".") : cleanStep st s = st := by
  rcases h with rfl | rfl <;> rfl

theorem cleanStep_up (st : List String) : cleanStep st ".." = st.dropLast := by
  simp [cleanStep]

theorem cleanStep_plain {st : List String} {s : String} (h : Plain s) : cleanStep st s = st ++ [s] := by
  obtain ⟨h1, h2, h3⟩ := h
  simp [cleanStep, h1, h2, h3]

theorem seg_cases (s : String) : (s = "" ∨ s = ".") ∨ s = ".." ∨ Plain s := by
  unfold Plain
  by_cases h1 : s = ""
  · exact Or.inl (Or.inl h1)
  by_cases h2 : s = "."
  · exact Or.inl (Or.inr h2)
  by_cases h3 : s = ".."
  · exact Or.inr (Or.inl h3)
  · exact Or.inr (Or.inr ⟨h1, h2, h3⟩)

theorem cleanStep_append (base : List String) {st : List String} {s : String} (h : s = ".." → st ≠ []) :
    cleanStep (base ++ st) s = base ++ cleanStep st s := by
  rcases seg_cases s with hs | rfl | hs
  · rw [cleanStep_skip hs, cleanStep_skip hs]
  · rw [cleanStep_up, cleanStep_up, List.dropLast_append_of_ne_nil (h rfl)]
  · rw [cleanStep_plain hs, cleanStep_plain hs, List.append_assoc]

theorem foldl_cleanStep_plain (st l : List String) (h : ∀ x ∈ l, Plain x) :
    l.foldl cleanStep st = st ++ l := by
  induction l generalizing st with
  | nil => simp
  | cons x xs ih =>
    rw [List.foldl_cons, cleanStep_plain (h x List.mem_cons_self),
      ih _ (fun y hy => h y (List.mem_cons_of_mem _ hy))]
    simp

theorem cleanAbs_plain (l : List String) (h : ∀ x ∈ l, Plain x) : cleanAbs l = l := by
  unfold cleanAbs; rw [foldl_cleanStep_plain [] l h]; rfl

theorem cleanAbs_append (a b : List String) : cleanAbs (a ++ b) = b.foldl cleanStep (cleanAbs a) := by
  unfold cleanAbs; rw [List.foldl_append]

theorem cleanAbs_mem (l : List String) : ∀ x ∈ cleanAbs l, x ∈ l ∧ Plain x := by
  refine List.foldlRecOn l cleanStep (motive := fun r => ∀ x ∈ r, x ∈ l ∧ Plain x) (by simp) ?_
  intro st ih s hs x hx
  rcases seg_cases s with h | rfl | h
  · rw [cleanStep_skip h] at hx; exact ih x hx
  · rw [cleanStep_up] at hx; exact ih x (List.dropLast_subset _ hx)
  · rw [cleanStep_plain h, List.mem_append, List.mem_singleton] at hx
    rcases hx with hx | rfl
    · exact ih x hx
    · exact ⟨hs, h⟩

/-- the `Nat` is the depth reached below the directory the name is joined to -/
def staysBelowFrom : Nat → List String → Bool
  | _, [] => true
  | d, s :: rest =>
    if s == "" || s == "." then staysBelowFrom d rest
    else if s == ".." then (if d = 0 then false else staysBelowFrom (d - 1) rest)
    else staysBelowFrom (d + 1) rest

/-- the name never climbs above the directory it is joined to -/
def staysBelow (segs : List String) : Bool := staysBelowFrom 0 segs

theorem staysBelowFrom_skip {s : String} (h : s = "" ∨ s = ".") (d : Nat) (rest : List String) :
    staysBelowFrom d (s :: rest) = staysBelowFrom d rest := by
  rcases h with rfl | rfl <;> rfl

theorem staysBelowFrom_up (d : Nat) (rest : List String) :
    staysBelowFrom d (".." :: rest) = if d = 0 then false else staysBelowFrom (d - 1) rest := by
  simp [staysBelowFrom]

theorem staysBelowFrom_plain {s : String} (h : Plain s) (d : Nat) (rest : List String) :
    staysBelowFrom d (s :: rest) = staysBelowFrom (d + 1) rest := by
  obtain ⟨h1, h2, h3⟩ := h
  simp [staysBelowFrom, h1, h2, h3]

/-- the depth counter is the height of the stack -/
theorem staysBelowFrom_cons (st : List String) (s : String) (rest : List String) :
    staysBelowFrom st.length (s :: rest) = true ↔
      (s = ".." → st ≠ []) ∧ staysBelowFrom (cleanStep st s).length rest = true := by
  rcases seg_cases s with hs | rfl | hs
  · rw [staysBelowFrom_skip hs, cleanStep_skip hs]
    rcases hs with rfl | rfl <;> simp
  · rw [staysBelowFrom_up, cleanStep_up, List.length_dropLast]
    cases st <;> simp
  · rw [staysBelowFrom_plain hs, cleanStep_plain hs, List.length_append]
    simp [hs.2.2]

theorem foldl_cleanStep_base (base : List String) (segs st : List String)
    (h : staysBelowFrom st.length segs = true) :
    segs.foldl cleanStep (base ++ st) = base ++ segs.foldl cleanStep st := by
  induction segs generalizing st with
  | nil => rfl
  | cons s rest ih =>
    obtain ⟨h1, h2⟩ := (staysBelowFrom_cons st s rest).mp h
    rw [List.foldl_cons, List.foldl_cons, cleanStep_append base h1, ih _ h2]

theorem foldl_cleanStep_escape (segs st : List String) (h : staysBelowFrom st.length segs = false) :
    ∃ pre post, segs = pre ++ ".." :: post ∧
      ∀ base, segs.foldl cleanStep (base ++ st) = post.foldl cleanStep base.dropLast := by
  induction segs generalizing st with
  | nil => simp [staysBelowFrom] at h
  | cons s rest ih =>
    by_cases h1 : s = ".." → st ≠ []
    · obtain ⟨pre, post, he, hf⟩ := ih (cleanStep st s) (by
        rw [← Bool.not_eq_true] at h ⊢; exact fun h2 => h ((staysBelowFrom_cons st s rest).mpr ⟨h1, h2⟩))
      refine ⟨s :: pre, post, by rw [he]; rfl, fun base => ?_⟩
      rw [List.foldl_cons, cleanStep_append base h1, hf]
    · obtain ⟨rfl, rfl⟩ : s = ".." ∧ st = [] := by simpa using h1
      exact ⟨[], rest, rfl, fun base => by rw [List.foldl_cons, cleanStep_up, List.append_nil]⟩

theorem cleanAbs_root {h : String} (hh : Plain h) (segs : List String) :
    cleanAbs (["orbitdb", h] ++ segs) = segs.foldl cleanStep ["orbitdb", h] := by
  rw [cleanAbs_append, cleanAbs_plain]
  intro x hx
  simp only [List.mem_cons, List.not_mem_nil, or_false] at hx
  rcases hx with rfl | rfl
  · decide
  · exact hh

theorem clean_below {h : String} (hh : Plain h) (segs : List String) (hs : staysBelow segs = true) :
    cleanAbs (["orbitdb", h] ++ segs) = ["orbitdb", h] ++ cleanAbs segs := by
  rw [cleanAbs_root hh]
  exact foldl_cleanStep_base ["orbitdb", h] segs [] hs

theorem clean_escape_all (segs : List String) (hs : staysBelow segs = false) :
    ∃ pre post, segs = pre ++ ".." :: post ∧
      ∀ h, Plain h → cleanAbs (["orbitdb", h] ++ segs) = cleanAbs ("orbitdb" :: post) := by
  obtain ⟨pre, post, he, hf⟩ := foldl_cleanStep_escape segs [] hs
  exact ⟨pre, post, he, fun h hh => by rw [cleanAbs_root hh]; exact hf ["orbitdb", h]⟩

theorem clean_escape_exact {h : String} (hh : Plain h) (segs : List String)
    (hs : staysBelow segs = false) :
    ∃ pre post, segs = pre ++ ".." :: post ∧
      cleanAbs (["orbitdb", h] ++ segs) = cleanAbs ("orbitdb" :: post) :=
  let ⟨pre, post, he, hf⟩ := clean_escape_all segs hs
  ⟨pre, post, he, hf h hh⟩

theorem clean_escape {h h' : String} (hh : Plain h) (hh' : Plain h') (segs : List String)
    (hs : staysBelow segs = false) :
    cleanAbs (["orbitdb", h] ++ segs) = cleanAbs (["orbitdb", h'] ++ segs) :=
  let ⟨_, _, _, hf⟩ := clean_escape_all segs hs
  (hf h hh).trans (hf h' hh').symm

/-- the escaping name may re-enter the same root (`../<h>/x`): then, and only then, `determine`
still answers (`determine_eq_some_iff_cleanAbs`) -/
example : staysBelow ["..", "@H", "x"] = false ∧
    cleanAbs (["orbitdb", "@H"] ++ ["..", "@H", "x"]) = ["orbitdb", "@H", "x"] ∧
    cleanAbs (["orbitdb", "@H"] ++ ["..", "@V", "x"]) = ["orbitdb", "@V", "x"] := by decide +kernel

example : staysBelow ["a", "", "..", ".", "b", "c", ".."] = true ∧
    cleanAbs (["orbitdb", "@H"] ++ ["a", "", "..", ".", "b", "c", ".."]) = ["orbitdb", "@H", "b"] := by
  decide +kernel

end Orbit.Path
