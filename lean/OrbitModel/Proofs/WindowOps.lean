import OrbitModel.Proofs.Window
/-!
# Range queries over a log that also holds entries which are not operations

`queryWinOps` is the Go `query`/`read` after the `fix:` commits of F48 and F60: the bound is looked up
among ALL the entries (it may be an entry that is not an operation), entries that are not operations are
skipped while collecting and do not count against `amount`.  Which window it returns is said in
`Proofs/Window.lean` (`queryWinOps_eq_windowSpecOps`); here: it lists operations only, in the order of
the log, and `Get` (`gte = hash`, `amount = 1`) answers with the entry asked for exactly when that entry
is an operation.
-/
namespace Orbit

theorem queryWinOps_sublist (p : Entry → Bool) (L : List Entry) (o : StreamOpts) :
    (queryWinOps p L o).Sublist (L.filter p) := by
  have key : ∀ (l : List Entry) c n inc, (readWinOps p l c n inc).Sublist (l.filter p) := by
    intro l c n inc
    unfold readWinOps
    exact (List.take_sublist _ _).trans ((List.drop_sublist _ _).filter p)
  unfold queryWinOps
  split
  · exact key _ _ _ _
  · have := (key L.reverse (match o.lt with | some c => some c | none => o.lte)
      (normAmount o.amount L.length) (o.lte.isSome || o.lt.isNone)).reverse
    rwa [List.filter_reverse, List.reverse_reverse] at this

/-- what `Get(h)` looks at: the listing from `h` on, one entry long -/
theorem getOps_shape (p : Entry → Bool) (L : List Entry) (h : Nat) (hnd : HashNodup L) (e : Entry)
    (he : e ∈ L) (hh : e.hash = h) :
    ∃ rest, queryWinOps p L { gte := some h, amount := some 1 } = ((e :: rest).filter p).take 1 ∧
      ∀ x ∈ rest, x.hash ≠ h := by
  subst hh
  obtain ⟨a, b, rfl, ha, hb⟩ := hashNodup_split hnd he
  refine ⟨b, ?_, hb⟩
  unfold queryWinOps readWinOps
  dsimp only
  rw [findIdx?_hash_split b ha]
  simp [normAmount]

theorem getOps_of_operation (p : Entry → Bool) (L : List Entry) (h : Nat) (hnd : HashNodup L) (e : Entry)
    (he : e ∈ L) (hh : e.hash = h) (hop : p e = true) :
    queryWinOps p L { gte := some h, amount := some 1 } = [e] := by
  obtain ⟨rest, hq, _⟩ := getOps_shape p L h hnd e he hh
  rw [hq, List.filter_cons_of_pos hop]
  rfl

/-- **`Get` of an entry that is not an operation never answers with that entry**: what the listing hands
back (if anything) is ANOTHER entry, under another hash - which is what the Go `Get` tests before it answers
(finding F69: it answered with it) -/
theorem getOps_of_non_operation (p : Entry → Bool) (L : List Entry) (h : Nat) (hnd : HashNodup L) (e : Entry)
    (he : e ∈ L) (hh : e.hash = h) (hop : p e = false) :
    ∀ x ∈ queryWinOps p L { gte := some h, amount := some 1 }, x ≠ e ∧ x.hash ≠ h := by
  obtain ⟨rest, hq, hrest⟩ := getOps_shape p L h hnd e he hh
  intro x hx
  rw [hq, List.filter_cons_of_neg (by simp [hop])] at hx
  have hxr : x ∈ rest := (List.mem_filter.mp (List.mem_of_mem_take hx)).1
  exact ⟨fun hxe => hrest x hxr (hxe ▸ hh), hrest x hxr⟩

/-- with the bound on an entry that is not an operation, the window is taken from its POSITION; looking
the bound up among the operations only (the code before the `fix:` commit of F60) does not find it and
starts from the first entry -/
example :
    let e (n : Nat) : Entry := { (default : Entry) with hash := n }
    let isOp : Entry → Bool := fun x => x.hash != 3
    (queryWinOps isOp [e 1, e 2, e 3, e 4, e 5] { gte := some 3, amount := some (-1) }).map (·.hash) = [4, 5]
    ∧ (queryWin ([e 1, e 2, e 3, e 4, e 5].filter isOp) { gte := some 3, amount := some (-1) }).map (·.hash)
        = [1, 2, 4, 5] := by decide

end Orbit
