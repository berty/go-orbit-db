import OrbitModel.Proofs.CrashHist
/-!
# Crash = prefix of the effect trace; recovery returns a durable log   (C05)

Whatever prefix `p` of the trace of a valid history survives, it has a durable log, and `recover U (diskOf p)`
returns it. That the recovered set is closed under `next` is where `BatchOk.parents` is used: rejected logs
being skipped, a child accepted while its parent is rejected would be recovered with a parent the log never
held (`CrashExample.rejected_parent_recovered`).
-/
namespace Orbit

theorem Durable.histInv {U : List Entry} {T : List Eff} {L : Log} (h : Durable U T L) {id : Nat}
    (hid : L.id = id) : HistInv U id T L :=
  ⟨h.good, hid, h.closed, fun e he => (mem_blocks T _).mp (h.blocks e he)⟩

/-- an operation commits at its cache write: the prefixes that end before it have the old log as their
durable log, those that reach it the new one -/
theorem valid_inv {acl : Acl} {U : List Entry} (hU : HashDet U) (hM : ClockMono U) {id : Nat}
    {ops : List SOp} {L : Log} (hv : ValidHist acl U id ops L) :
    (L.id = id ∧ Durable U (trace ops) L) ∧ PrefOk U L (trace ops) := by
  have same : ∀ {L : Log} (x : Entry), x ∈ L.entries → x ∈ L.entries := fun _ h => h
  induction hv with
  | nil =>
    exact ⟨⟨rfl, durable_nil U id⟩,
      fun p hp => ⟨_, List.prefix_nil.mp hp ▸ durable_nil U id, same⟩⟩
  | @write ops L mk _ hcan hw ih =>
    obtain ⟨⟨hid, hD⟩, hP⟩ := ih
    obtain ⟨hG', hid', hC', hent, hcov⟩ := (hD.histInv hid).write hU hM hcan hw
    generalize mk (appendTime L) (appendNext L) = e at *
    generalize (append acl.canAppend L mk).1 = L' at *
    have hsub : ∀ x ∈ L.entries, x ∈ L'.entries := fun x hx => hent ▸ List.mem_append_left _ hx
    have hhas : has L'.entries e.hash = true :=
      has_of_mem (hent ▸ List.mem_append_right _ List.mem_cons_self)
    have d1 := hD.block e.hash
    have hblk : ∀ x ∈ L'.entries, x.hash ∈ (diskOf (trace ops ++ [.block e.hash])).blocks := by
      intro x hx
      rcases List.mem_append.mp (hent ▸ hx) with hx | hx
      · exact d1.blocks x hx
      · exact (mem_blocks _ _).mpr (List.mem_singleton.mp hx ▸ List.mem_append_right _ List.mem_cons_self)
    have g : CacheStep U (trace ops ++ [.block e.hash]) L L' [e.hash] :=
      ⟨hsub, hG', hC', hblk, fun h hh => List.mem_singleton.mp hh ▸ hhas, hcov⟩
    have d2 := d1.cache g (c := .cacheLocal [e.hash]) (.inl rfl)
    have d3 := d2.ack e.hash hhas
    have hT : trace (ops ++ [.write e]) =
        trace ops ++ [.block e.hash] ++ [.cacheLocal [e.hash]] ++ [.ack e.hash] := by
      rw [trace_snoc]; simp only [SOp.effects, List.append_assoc, List.cons_append, List.nil_append]
    rw [hT]
    exact ⟨⟨hid', d3⟩, ((hP.snoc same d1 same).snoc hsub d2 same).snoc same d3 same⟩
  | @denied ops L mk _ hcan ih =>
    obtain ⟨⟨hid, hD⟩, hP⟩ := ih
    have hstep : Step acl.canAppend U L (append acl.canAppend L mk).1 := .appendDenied L mk hcan
    have hent : (append acl.canAppend L mk).1.entries = L.entries := by rw [append_denied hcan]
    refine ⟨⟨(step_id hstep).trans hid, good_step hU hM hD.good hstep, ?_, ?_, ?_, ?_, ?_, ?_⟩, ?_⟩
    · unfold Closed; rw [hent]; exact hD.closed
    · rw [hent]; exact hD.blocks
    · rw [hent]; exact hD.roots
    · exact hD.covers.of_entries_eq hent
    · rw [hent]; exact hD.acks
    · rw [hent]; exact hD.repl
    · exact fun p hp => (hP p hp).imp fun D h => ⟨h.1, hent ▸ h.2⟩
  | @fetched ops L e _ ih =>
    obtain ⟨⟨hid, hD⟩, hP⟩ := ih
    rw [show trace (ops ++ [.fetched e]) = trace ops ++ [.block e.hash] from trace_snoc _ _]
    exact ⟨⟨hid, hD.block e.hash⟩, hP.snoc same (hD.block e.hash) same⟩
  | @merged ops L logs L' _ hB hj hall ih =>
    obtain ⟨⟨hid, hD⟩, hP⟩ := ih
    obtain ⟨hI', hsub⟩ := (hD.histInv hid).batch hU hM hB hj
    have hheads : ∀ h ∈ (sortedHeads L').map (·.hash), has L'.entries h = true := by
      intro h hh
      obtain ⟨x, hx, rfl⟩ := List.mem_map.mp hh
      exact has_of_mem (hI'.good.inv.heads_sub x (mem_sortedHeads.mp hx))
    have d1 := hD.cache (c := .cacheRemote ((sortedHeads L').map (·.hash))) ⟨hsub, hI'.good, hI'.closed,
      fun x hx => (mem_blocks _ _).mpr (hI'.blocks x hx), hheads, sortedHeads_cover hM hI'.good.inv⟩
      (.inr rfl)
    have d2 := d1.replicated ((joinedEntries acl L logs).map (·.hash)) (fun h hh => by
      obtain ⟨x, hx, rfl⟩ := List.mem_map.mp hh
      exact has_of_mem (hall x hx))
    have hT : trace (ops ++ [.merged (joinedEntries acl L logs) ((sortedHeads L').map (·.hash))]) =
        trace ops ++ [.cacheRemote ((sortedHeads L').map (·.hash))] ++
          [.replicated ((joinedEntries acl L logs).map (·.hash))] := by
      rw [trace_snoc]; simp only [SOp.effects, List.append_assoc, List.cons_append, List.nil_append]
    rw [hT]
    exact ⟨⟨hI'.lid, d2⟩, (hP.snoc hsub d1 same).snoc same d2 same⟩

theorem ValidHist.histInv {acl : Acl} {U : List Entry} (hU : HashDet U) (hM : ClockMono U) {id : Nat}
    {ops : List SOp} {L : Log} (hv : ValidHist acl U id ops L) : HistInv U id (trace ops) L :=
  (valid_inv hU hM hv).1.2.histInv (valid_inv hU hM hv).1.1

/-- **C05.** Cut the effect trace of a valid history anywhere (`p` is what reached the disk) and
recover from what is left. -/
theorem crash_recovers {acl : Acl} {U : List Entry} (hU : HashDet U) (hM : ClockMono U) {id : Nat}
    {ops : List SOp} {L : Log} (hvalid : ValidHist acl U id ops L) (p : List Eff)
    (hp : p <+: trace ops) :
    -- (i) acknowledged writes and replicated entries are recovered
    (∀ h, Eff.ack h ∈ p → h ∈ recover U (diskOf p)) ∧
    (∀ hs, Eff.replicated hs ∈ p → ∀ h ∈ hs, h ∈ recover U (diskOf p)) ∧
    -- (ii) only entries whose block was really written
    (∀ h ∈ recover U (diskOf p), h ∈ (diskOf p).blocks ∧ Eff.block h ∈ p) ∧
    -- (iii) closed under `next`
    (∀ h ∈ recover U (diskOf p), ∀ e ∈ U, e.hash = h → ∀ n ∈ e.next, n ∈ recover U (diskOf p)) ∧
    -- (iv) exactly the hashes of a good, closed part of the pre-crash log
    (∃ D, Good U D ∧ Closed D ∧ (∀ e ∈ D.entries, e ∈ L.entries) ∧
      ∀ h, h ∈ recover U (diskOf p) ↔ has D.entries h = true) := by
  obtain ⟨D, hD, hDL⟩ := (valid_inv hU hM hvalid).2 p hp
  have hR := recover_durable hU hD
  have hN := hD.closed.nextClosed hU hD.good.inv.sub
  refine ⟨fun h hh => (hR h).mpr (hD.acks h hh), fun hs hh h hm => (hR h).mpr (hD.repl hs hh h hm),
    fun h hh => ?_, fun h hh e heU heh n hn => (hR n).mpr (hN e heU (heh ▸ (hR h).mp hh) n hn),
    D, hD.good, hD.closed, hDL, hR⟩
  have hb := (recover_sound hN hD.roots h hh).2
  exact ⟨hb, (mem_blocks p h).mp hb⟩

inductive Anc (U : List Entry) : Nat → Nat → Prop
  | refl (h : Nat) : Anc U h h
  | step {p : Entry} {n x : Nat} : p ∈ U → n ∈ p.next → Anc U n x → Anc U p.hash x

theorem Anc.closed {U : List Entry} {S : Nat → Prop} (hS : NextClosed U S) {h x : Nat} (a : Anc U h x) :
    S h → S x := by
  induction a with
  | refl _ => exact id
  | step hp hn _ ih => exact fun hh => ih (hS _ hp hh _ hn)

/-- **Whenever `_localHeads` or `_remoteHeads` is written, the block of every ancestor of the
value is already on disk.** -/
theorem blocks_before_heads {acl : Acl} {U : List Entry} (hU : HashDet U) (hM : ClockMono U)
    {id : Nat} {ops : List SOp} {L : Log} (hvalid : ValidHist acl U id ops L) (pre post : List Eff)
    (hs : List Nat) (c : Eff) (hc : c = .cacheLocal hs ∨ c = .cacheRemote hs)
    (hsplit : trace ops = pre ++ c :: post) :
    ∀ h ∈ hs, ∀ x, Anc U h x → Eff.block x ∈ pre := by
  have hp : pre ++ [c] <+: trace ops := by
    rw [hsplit]; exact ⟨post, by simp⟩
  obtain ⟨D, hD, _⟩ := (valid_inv hU hM hvalid).2 _ hp
  intro h hh x hx
  have hroot : h ∈ (diskOf (pre ++ [c])).lheads ++ (diskOf (pre ++ [c])).rheads := by
    rw [diskOf_snoc]
    rcases hc with rfl | rfl
    · exact List.mem_append_left _ hh
    · exact List.mem_append_right _ hh
  have hx' := hx.closed (hD.closed.nextClosed hU hD.good.inv.sub) (hD.roots h hroot)
  obtain ⟨y, hy, hyx⟩ := (has_iff _ _).mp hx'
  have hb := (mem_blocks _ _).mp (hD.blocks y hy)
  rw [hyx] at hb
  exact (mem_snoc.mp hb).resolve_right (by rcases hc with rfl | rfl <;> nofun)

end Orbit
