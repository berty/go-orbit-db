import OrbitModel.Proofs.OpenCreateOpen
/-!
# `Create` / `Open`: concrete runs with a toy manifest hash   (C14)

Every refusal and every success of the model is reached; the hypotheses of the theorems of
`OpenCreate.lean` / `OpenCreateOpen.lean` hold on a concrete instance (non-vacuity).
Strings are UTF-8 byte arrays: every `toList`, `ofList`, `++` or `==` on a literal is decoded and encoded
again by whoever evaluates it, so that even one `parse` of an address is slow to check. What the runs
share is therefore evaluated once (`shop_…`), by the kernel alone (`decide +kernel`; plain `decide`
evaluates in the elaborator first and does not get through a whole `create`), and the runs go through the
general theorems.
-/
namespace Orbit.OC.Example
open Orbit.Path Orbit.OC

instance {α : Type} [DecidableEq α] : DecidableEq (Except Err α) := fun a b =>
  match a, b with
  | .ok x, .ok y => if h : x = y then isTrue (h ▸ rfl) else isFalse (fun e => h (by injection e))
  | .error x, .error y => if h : x = y then isTrue (h ▸ rfl) else isFalse (fun e => h (by injection e))
  | .ok _, .error _ => isFalse (fun e => by cases e)
  | .error _, .ok _ => isFalse (fun e => by cases e)

/-- toy manifest hash: `@name.type.w1.w2...` (a CID for `atCid`; a segment when the name has no `/`) -/
def tH (n t : String) (w : List String) : String := "@" ++ n ++ "." ++ t ++ "." ++ ".".intercalate w

def shopM : Manifest := ⟨"shop", "kv", ["me"]⟩
def shopA : Addr := ⟨"@shop.kv.me", "shop"⟩

def s0 : St := { self := "me", types := ["kv", "log"], «local» := [], net := [] }
/-- after `Create("shop", "kv")` -/
def s1 : St := { s0 with «local» := [shopA], net := [("@shop.kv.me", shopM)] }
/-- another instance that can fetch the manifest but has no local data -/
def s2 : St := { self := "you", types := ["kv"], «local» := [], net := [("@shop.kv.me", shopM)] }

theorem shop_not_address : isAddress atCid "shop" = false := by decide +kernel
theorem shop_below : staysBelow (segments "shop") = true := by decide +kernel
theorem shop_path : "/".intercalate (cleanAbs (segments "shop")) = "shop" := by decide +kernel

theorem shop_under {h : String} (hc : atCid h = true) (hh : Seg h) :
    determine atCid h "shop" = some ⟨h, "shop"⟩ :=
  (determine_below hc hh "shop" shop_not_address shop_below).trans (by rw [shop_path])

theorem shop_cid : atCid (tH "shop" "kv" ["me"]) = true := by decide +kernel
theorem shop_seg : Seg (tH "shop" "kv" ["me"]) := by decide +kernel
theorem shop_determine : determine atCid (tH "shop" "kv" ["me"]) "shop" = some shopA :=
  (shop_under shop_cid shop_seg).trans (by decide +kernel)
theorem print_shop : print shopA = "/orbitdb/@shop.kv.me/shop" := by decide +kernel

/-- on `s0` and on `s1` alike (the instance enters through its identity and its store types only) -/
theorem shop_determineAddr {s : St} (hme : s.self = "me") (ht : s.types.contains "kv" = true) :
    determineAddr atCid tH s "shop" "kv" [] =
      (.ok shopA, putNet s (tH "shop" "kv" ["me"]) shopM) := by
  rw [determineAddr_of ht (a := shopA) (by rw [hme]; exact shop_determine), hme]; rfl

theorem shop_determineAddr_s1 : (determineAddr atCid tH s1 "shop" "kv" []).1 = .ok shopA :=
  congrArg Prod.fst (shop_determineAddr rfl (by decide +kernel))

example : createDB atCid tH s0 "shop" "nope" [] false = (.error .invalidType, s0) := by decide +kernel
example : createDB atCid tH s0 "/orbitdb/@V/x" "kv" [] false = (.error .nameIsAddress, s0) := by decide +kernel
/-- the store type is checked before the name -/
example : createDB atCid tH s0 "/orbitdb/@V/x" "nope" [] false = (.error .invalidType, s0) := by decide +kernel
/-- a name that escapes is refused -- after its manifest was written (U2) -/
example : createDB atCid tH s0 "../@V/x" "kv" ["w"] false =
    (.error .badName, { s0 with net := [("@../@V/x.kv.w", ⟨"../@V/x", "kv", ["w"]⟩)] }) := by decide +kernel

example : determineAddr atCid tH s0 "shop" "kv" [] = (.ok shopA, { s0 with net := s1.net }) :=
  (shop_determineAddr rfl (by decide +kernel)).trans (by decide +kernel)

theorem create_shop : create atCid tH s0 "shop" "kv" {} = (.ok (shopA, "kv", ["me"]), s1) := by
  -- `s` and `o` are given: the shared facts are elaborated before `rw` has unified anything, and with the
  -- hash still `tH ?name ?ty (effAcl ?s.self ?o.acl)` the unifier starts evaluating `determine`
  rw [create_of (s := s0) (o := {}) (by decide +kernel) shop_determine shop_cid shop_seg]
  decide +kernel

/-- refused, after the manifest block was written again -/
theorem create_shop_again :
    create atCid tH s1 "shop" "kv" {} =
      (.error .exists, { s1 with net := ("@shop.kv.me", shopM) :: s1.net }) ∧
    (create atCid tH s1 "shop" "kv" {}).2.local = s1.local :=
  have h := create_refused_when_exists (isCid := atCid) (H := tH) s1 "shop" "kv" {} shopA
    shop_determineAddr_s1 (by decide +kernel) rfl
  ⟨h.trans (by decide +kernel), congrArg (·.2.local) h⟩

example : (createDB atCid tH s1 "shop" "kv" [] false).1 = .error .exists := congrArg Prod.fst create_shop_again.1

/-- with overwrite it succeeds (nothing is deleted: the key is simply written again) -/
example : (create atCid tH s1 "shop" "kv" { overwrite := true }).1 = .ok (shopA, "kv", ["me"]) :=
  create_overwrite_ok s1 "shop" "kv" { overwrite := true } shopA
    shop_determineAddr_s1 shop_cid shop_seg rfl

/-- another write list = another database: not refused -/
example : (determineAddr atCid tH s1 "shop" "kv" ["me", "you"]).1 = .ok ⟨"@shop.kv.me.you", "shop"⟩ := by
  rw [determineAddr_of (by decide +kernel) (shop_under (by decide +kernel) (by decide +kernel))]
  decide +kernel

example : print shopA = "/orbitdb/@shop.kv.me/shop" := print_shop

theorem parse_shop : parse atCid "/orbitdb/@shop.kv.me/shop" = some shopA :=
  print_shop ▸ determine_parse_print shop_cid shop_seg shop_determine

theorem canon_shop : canon atCid shopA = shopA := canon_of_printed (print_shop ▸ parse_shop)

theorem named_s1 : Named atCid s1 shopA :=
  named_of_fetch (m0 := shopM) (by decide +kernel) (named_of_determine shop_cid shop_seg shop_determine _ rfl)
/-- `s2` serves the same manifests as `s1` -/
theorem named_s2 : Named atCid s2 shopA := named_s1

/-- same instance, local-only or not, with misleading options: the recorded type and write list -/
example : openDB atCid tH s1 "/orbitdb/@shop.kv.me/shop" true false "log" false =
    (.ok (shopA, "kv", ["me"]), s1) := by
  rw [openDB, open_of_named _ parse_shop named_s1, canon_shop]; decide +kernel
example : openDB atCid tH s1 "/orbitdb/@shop.kv.me/shop" false true "" true =
    (.ok (shopA, "kv", ["me"]), s1) := by
  rw [openDB, open_of_named _ parse_shop named_s1, canon_shop]; decide +kernel

example : ∀ o', «open» atCid tH s1 (print shopA) o' = (.ok (shopA, "kv", ["me"]), s1) :=
  (create_then_open_same (isCid := atCid) (H := tH) s0 s1 "shop" "kv" {} shopA "kv" ["me"]
    shop_cid shop_seg create_shop).1

/-- the other instance: plain `Open` succeeds and records the database; a local-only `Open` is refused
before it and succeeds after it (finding F53; on the pinned tree it is refused after it too: U1) -/
example : openDB atCid tH s2 "/orbitdb/@shop.kv.me/shop" false false "" false =
    (.ok (shopA, "kv", ["me"]), addLocal s2 shopA) := by
  rw [openDB, open_of_named _ parse_shop named_s2, canon_shop]; decide +kernel
example : openDB atCid tH s2 "/orbitdb/@shop.kv.me/shop" true false "" false =
    (.error .notLocal, s2) := by
  rw [openDB, open_of_named _ parse_shop named_s2, canon_shop]; decide +kernel
example : (openDB atCid tH (openDB atCid tH s2 "/orbitdb/@shop.kv.me/shop" false false "" false).2
    "/orbitdb/@shop.kv.me/shop" true false "" false).1 = .ok (shopA, "kv", ["me"]) :=
  open_remote_then_localonly_succeeds s2 _ _ _ shopA _ parse_shop (print_shop ▸ parse_shop) (by
    rw [open_of_named _ parse_shop named_s2, canon_shop]; decide +kernel)

/-- a manifest nobody serves -/
example : openDB atCid tH s0 "/orbitdb/@shop.kv.me/shop" false false "" false =
    (.error .noManifest, s0) := by
  rw [openDB, open_of_named _ parse_shop (named_of_no_manifest (by decide +kernel)), canon_shop]; decide +kernel
/-- a manifest of a type this instance has not registered (`s2` knows `kv` only) -/
example : («open» atCid tH { s2 with net := [("@x", ⟨"x", "log", []⟩)] } "/orbitdb/@x/x" {}).1 =
    .error .unsupported := by decide +kernel
/-- **the path of the address is compared with the manifest's name** (finding F52; on the pinned tree it is not: U7):
`/orbitdb/<root of "shop">/anything/else` is refused, it names no database -/
example : openDB atCid tH s2 "/orbitdb/@shop.kv.me/anything/else" false false "" false =
    (.error .nameMismatch, s2) :=
  have hp : print ⟨"@shop.kv.me", "anything/else"⟩ = "/orbitdb/@shop.kv.me/anything/else" := by decide +kernel
  open_misnamed_refused s2 _ _ _ shopM
    (hp ▸ parse_print
      ⟨by decide +kernel, by decide +kernel, ["anything", "else"], by decide +kernel, by decide +kernel⟩)
    (by decide +kernel) (by
      rw [named_eq_of_determine shop_cid shop_seg shop_determine (by decide +kernel) rfl, print_shop, hp]
      simp) nofun
/-- **an address that climbs out of its root is refused as an address** (finding F28): it prints as
another database's address -/
example : parse atCid "/orbitdb/@shop.kv.me/../@other/x" = none := by decide +kernel

theorem parse_shop_name : parse atCid "shop" = none := parse_none_of_parse0 (by decide +kernel)
example : openDB atCid tH s1 "shop" false false "kv" false = (.error .createFalse, s1) :=
  open_invalid_no_create s1 "shop" _ parse_shop_name rfl
example : openDB atCid tH s1 "shop" false true "" false = (.error .noType, s1) :=
  open_invalid_no_type s1 "shop" _ parse_shop_name rfl rfl

/-- with `Create` and a type it creates, overwrite forced: the existing `shop` is NOT refused -/
example : («open» atCid tH s1 "shop" { create := true, storeType := "kv" }).1 =
    .ok (shopA, "kv", ["me"]) :=
  open_create_over_existing s1 "shop" { create := true, storeType := "kv" } shopA
    parse_shop_name rfl (by decide +kernel) shop_determineAddr_s1 shop_cid shop_seg

/-- ... and on a fresh instance it creates the database (local-only included: `Create` wrote the key) -/
example : «open» atCid tH s0 "shop" { create := true, storeType := "kv", localOnly := true } =
    (.ok (shopA, "kv", ["me"]), s1) := by
  rw [open_invalid_creates _ _ _ parse_shop_name rfl (by decide +kernel),
    create_of (s := s0) (o := { create := true, storeType := "kv", localOnly := true, overwrite := true })
      (by decide +kernel) shop_determine shop_cid shop_seg]
  decide +kernel

end Orbit.OC.Example
