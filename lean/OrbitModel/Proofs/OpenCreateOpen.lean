import OrbitModel.Proofs.OpenCreate
/-!
# `Open`: local-only refusal, what is handed back, `Create` then `Open`   (C14)

Everything about `Open` of a valid address is read off one normal form, `open_of_parse`: the refusals in
the order the code tests them, then the store with the database recorded.
-/
namespace Orbit.OC
open Orbit.Path

variable {isCid : String → Bool} {H : String → String → List String → String}

theorem record_error (a : Addr) (e : Err) (s : St) : record a (.error e, s) = (.error e, s) := rfl

theorem record_ok (a : Addr) (out : Out) (s : St) : record a (.ok out, s) = (.ok out, addLocal s a) := rfl

theorem canon_of_printed {a : Addr} (h : parse isCid (print a) = some a) : canon isCid a = a := by
  unfold canon; rw [h]; rfl

theorem open_of_parse {s : St} {addr : String} {a : Addr} (o : Opts) (hp : parse isCid addr = some a) :
    «open» isCid H s addr o =
      if o.localOnly && !haveLocal s a then (.error .notLocal, s) else
      match fetch s.net a.root with
      | none => (.error .noManifest, s)
      | some m =>
        if !named isCid a m then (.error .nameMismatch, s)
        else if !s.types.contains m.type then (.error .unsupported, s)
        else (.ok (a, m.type, m.acl), addLocal s (canon isCid a)) := by
  unfold «open» openValid record
  rw [hp]
  dsimp only
  cases o.localOnly && !haveLocal s a <;> cases fetch s.net a.root with
  | none => rfl
  | some m => dsimp only; cases named isCid a m <;> cases s.types.contains m.type <;> rfl

theorem open_cases {s : St} {addr : String} {a : Addr} (o : Opts) (hp : parse isCid addr = some a) :
    (∃ e, «open» isCid H s addr o = (.error e, s)) ∨
    ∃ m, fetch s.net a.root = some m ∧ named isCid a m = true ∧ s.types.contains m.type = true ∧
      (o.localOnly = true → a ∈ s.local) ∧
      «open» isCid H s addr o = (.ok (a, m.type, m.acl), addLocal s (canon isCid a)) := by
  rw [open_of_parse o hp]
  cases hm : fetch s.net a.root with
  | none => left; dsimp only; split <;> exact ⟨_, rfl⟩
  | some m =>
    dsimp only
    -- the refusals in the order of the normal form, then the success
    cases hlo : o.localOnly && !haveLocal s a
    case true => exact .inl ⟨_, rfl⟩
    cases hn : named isCid a m
    case false => exact .inl ⟨_, rfl⟩
    cases ht : s.types.contains m.type
    case false => exact .inl ⟨_, rfl⟩
    exact .inr ⟨m, rfl, hn, ht, (localOnly_pass_iff s a o).mp hlo, rfl⟩

theorem open_ok {s : St} {addr : String} {a : Addr} {o : Opts} {out : Out}
    (hp : parse isCid addr = some a) (h : («open» isCid H s addr o).1 = .ok out) :
    ∃ m, fetch s.net a.root = some m ∧ out = (a, m.type, m.acl) ∧ named isCid a m = true ∧
      s.types.contains m.type = true ∧ (o.localOnly = true → a ∈ s.local) ∧
      («open» isCid H s addr o).2 = addLocal s (canon isCid a) := by
  rcases open_cases (H := H) o hp with ⟨e, he⟩ | ⟨m, hm, hn, ht, hl, he⟩
  · rw [he] at h; cases h
  · rw [he] at h ⊢
    cases h
    exact ⟨m, hm, rfl, hn, ht, hl, rfl⟩

theorem open_of_ok {s : St} {addr : String} {a : Addr} {m : Manifest} (o : Opts)
    (hp : parse isCid addr = some a) (hl : o.localOnly = true → a ∈ s.local)
    (hm : fetch s.net a.root = some m) (hn : named isCid a m = true)
    (ht : s.types.contains m.type = true) :
    «open» isCid H s addr o = (.ok (a, m.type, m.acl), addLocal s (canon isCid a)) := by
  rw [open_of_parse o hp, hm]
  simp [(localOnly_pass_iff s a o).mpr hl, hn, List.contains_iff_mem.mp ht]

/-- `hl`: the local-only refusal comes before the name test -/
theorem open_misnamed_refused (s : St) (addr : String) (o : Opts) (a : Addr) (m : Manifest)
    (hp : parse isCid addr = some a) (hf : fetch s.net a.root = some m) (hn : named isCid a m = false)
    (hl : o.localOnly = true → a ∈ s.local) : «open» isCid H s addr o = (.error .nameMismatch, s) := by
  rw [open_of_parse o hp, hf]
  simp [(localOnly_pass_iff s a o).mpr hl, hn]

/-- the one change is `addManifestToCache` (after the `fix:` commit, finding F53); which state goes with
which outcome is in `open_cases` -/
theorem open_state (s : St) (addr : String) (o : Opts) (a : Addr)
    (hp : parse isCid addr = some a) :
    («open» isCid H s addr o).2 = s ∨ («open» isCid H s addr o).2 = addLocal s (canon isCid a) := by
  rcases open_cases (H := H) o hp with ⟨e, he⟩ | ⟨m, _, _, _, _, he⟩ <;> rw [he]
  · exact .inl rfl
  · exact .inr rfl

theorem open_unknown_localonly_refused (s : St) (addr : String) (o : Opts) (a : Addr)
    (hp : parse isCid addr = some a) (hl : a ∉ s.local) (hlo : o.localOnly = true) :
    «open» isCid H s addr o = (.error .notLocal, s) := by
  rw [open_of_parse o hp, if_pos]
  simpa [hlo, haveLocal] using hl

theorem open_invalid_no_create (s : St) (addr : String) (o : Opts)
    (hp : parse isCid addr = none) (hc : o.create = false) :
    «open» isCid H s addr o = (.error .createFalse, s) := by
  unfold «open»
  simp only [hp, hc, Bool.not_false, if_true]

theorem open_invalid_no_type (s : St) (addr : String) (o : Opts)
    (hp : parse isCid addr = none) (hc : o.create = true) (ht : o.storeType = "") :
    «open» isCid H s addr o = (.error .noType, s) := by
  unfold «open»
  simp only [hp, hc, ht, Bool.not_true, Bool.false_eq_true, if_false, beq_self_eq_true, if_true]

theorem open_invalid_creates (s : St) (addr : String) (o : Opts)
    (hp : parse isCid addr = none) (hc : o.create = true) (ht : o.storeType ≠ "") :
    «open» isCid H s addr o = create isCid H s addr o.storeType { o with overwrite := true } := by
  unfold «open»
  have : (o.storeType == "") = false := by simpa using ht
  simp only [hp, hc, this, Bool.not_true, Bool.false_eq_true, if_false]

/-- `Open(name, Create: true)` succeeds whether or not the database exists locally (by design: "open or
create"): it calls `Create` with `Overwrite := true`, which skips the `exists` refusal -/
theorem open_create_over_existing (s : St) (name : String) (o : Opts) (a : Addr)
    (hp : parse isCid name = none) (hc : o.create = true) (ht : o.storeType ≠ "")
    (hd : (determineAddr isCid H s name o.storeType o.acl).1 = .ok a)
    (hcid : isCid (H name o.storeType (effAcl s.self o.acl)) = true)
    (hseg : Seg (H name o.storeType (effAcl s.self o.acl))) :
    («open» isCid H s name o).1 = .ok (a, o.storeType, effAcl s.self o.acl) := by
  rw [open_invalid_creates s name o hp hc ht]
  exact create_overwrite_ok s name o.storeType { o with overwrite := true } a hd hcid hseg rfl

theorem named_eq_of_determine {h name : String} {a' : Addr} (hc : isCid h = true) (hh : Seg h)
    (hd : determine isCid h name = some a') {a : Addr} (ha : a.root = h) {m : Manifest} (hm : m.name = name) :
    named isCid a m = (print a' == print a) := by
  have hp : parse isCid (joinAddr h name) = some a' :=
    parse_of_parse0 (determine_eq_some_iff.mp hd).2.1 (parse_eq_some_iff.mp (determine_parse_print hc hh hd)).1
  unfold named
  rw [hm, ha, hp]

theorem named_of_determine {h name : String} {a : Addr} (hc : isCid h = true) (hh : Seg h)
    (hd : determine isCid h name = some a) (m : Manifest) (hm : m.name = name) :
    named isCid a m = true := by
  rw [named_eq_of_determine hc hh hd (determine_root hd) hm, beq_self_eq_true]

theorem create_ok_state {s s' : St} {name ty : String} {o : Opts} {out : Out}
    (hc : isCid (recHash H s name ty o) = true) (hs : Seg (recHash H s name ty o))
    (h : create isCid H s name ty o = (.ok out, s')) :
    parse isCid (print out.1) = some out.1 ∧ out.1 ∈ s'.local ∧
    fetch s'.net out.1.root = some ⟨name, out.2.1, out.2.2⟩ ∧ s'.types.contains out.2.1 = true ∧
    (∀ m : Manifest, m.name = name → named isCid out.1 m = true) := by
  obtain ⟨a, ht, hdet, rfl, he⟩ := create_ok (out := out) hc hs (by rw [h])
  obtain rfl : addLocal (putNet s (recHash H s name ty o) ⟨name, ty, recAcl s o⟩) a = s' :=
    (Prod.mk.inj (he.symm.trans h)).2
  refine ⟨determine_parse_print hc hs hdet, mem_addLocal _ a, ?_, ht,
    fun m hm => named_of_determine hc hs hdet m hm⟩
  show fetch (putNet s (recHash H s name ty o) ⟨name, ty, recAcl s o⟩).net a.root = _
  rw [determine_root hdet]
  exact fetch_putNet s _ _

theorem create_then_open_same (s s' : St) (name ty : String) (o : Opts) (a : Addr) (ty' : String)
    (wl : List String)
    (hc : isCid (recHash H s name ty o) = true) (hs : Seg (recHash H s name ty o))
    (h : create isCid H s name ty o = (.ok (a, ty', wl), s')) :
    (∀ o', «open» isCid H s' (print a) o' = (.ok (a, ty', wl), s')) ∧
    (∀ s2 o', fetch s2.net a.root = fetch s'.net a.root → ty' ∈ s2.types → o'.localOnly = false →
      «open» isCid H s2 (print a) o' = (.ok (a, ty', wl), addLocal s2 a)) ∧
    (∀ s2 o', a ∉ s2.local → o'.localOnly = true →
      «open» isCid H s2 (print a) o' = (.error .notLocal, s2)) := by
  obtain ⟨hpp, hloc, hnet, hty, hnm⟩ := create_ok_state hc hs h
  refine ⟨fun o' => ?_, fun s2 o' hf ht2 hlo => ?_, fun s2 o' hl hlo => ?_⟩
  · rw [open_of_ok o' hpp (fun _ => hloc) hnet (hnm _ rfl) hty, canon_of_printed hpp, addLocal_of_mem hloc]
  · rw [open_of_ok o' hpp (fun h => by rw [hlo] at h; cases h) (hf.trans hnet) (hnm _ rfl)
      (by simpa using ht2), canon_of_printed hpp]
  · exact open_unknown_localonly_refused s2 (print a) o' a hpp hl hlo

/-- after a successful `Open` the instance knows the database locally (after the `fix:` commit, finding
F53; on the pinned tree it did not: U1): a later `Open`, local-only included, gives the same result -/
theorem open_remote_then_localonly_succeeds (s : St) (addr : String) (o o' : Opts) (a : Addr) (out : Out)
    (hp : parse isCid addr = some a) (hca : parse isCid (print a) = some a)
    (h : («open» isCid H s addr o).1 = .ok out) :
    («open» isCid H («open» isCid H s addr o).2 addr o').1 = .ok out := by
  obtain ⟨m, hm, rfl, hnm, hty, _, hst⟩ := open_ok hp h
  rw [hst, canon_of_printed hca,
    open_of_ok o' hp (fun _ => mem_addLocal s a) hm hnm hty]

/-- the name test of `Open` passes: a manifest stored under the root of the address carries the name the
address ends with. The concrete runs settle this beforehand (`named_of_determine`) and leave the rest to
evaluation (`open_of_named`). -/
def Named (isCid : String → Bool) (s : St) (a : Addr) : Prop :=
  ∀ m, fetch s.net a.root = some m → named isCid a m = true

theorem named_of_fetch {s : St} {a : Addr} {m0 : Manifest} (hf : fetch s.net a.root = some m0)
    (hn : named isCid a m0 = true) : Named isCid s a := by
  intro m hm
  rw [hf] at hm
  cases hm
  exact hn

theorem named_of_no_manifest {s : St} {a : Addr} (hf : fetch s.net a.root = none) : Named isCid s a := by
  intro m hm
  rw [hf] at hm
  cases hm

theorem open_of_named {s : St} {addr : String} {a : Addr} (o : Opts) (hp : parse isCid addr = some a)
    (hn : Named isCid s a) : «open» isCid H s addr o = record (canon isCid a) (openValid s a o) := by
  unfold «open»
  rw [hp]
  dsimp only
  cases hf : fetch s.net a.root with
  | none => rfl
  | some m => simp [hn m hf]

end Orbit.OC
