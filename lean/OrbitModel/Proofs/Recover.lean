import OrbitModel.Proofs.OMap
import OrbitModel.Model.Persist
/-!
# `reach` (what `Load` rebuilds from the disk): soundness, fuel, closure   (C05)

`recover U d` is bounded from both sides: its hashes have their block on disk and stay inside every `next`-closed set
that contains the cached heads; and it contains every eligible cached head and is closed under eligible `next` links,
a hash being *eligible* when its block is on disk and the universe has an entry for it.
-/
namespace Orbit

/-- a hash `Load` can fetch and decode -/
def Eligible (U : List Entry) (blocks : List Nat) (h : Nat) : Prop :=
  h ∈ blocks ∧ ∃ e, get U h = some e

theorem reach_cons (U : List Entry) (blocks : List Nat) (f h : Nat) (rest acc : List Nat) :
    reach U blocks (f+1) (h :: rest) acc =
      if acc.contains h || !blocks.contains h then reach U blocks f rest acc
      else match get U h with
        | none => reach U blocks f rest acc
        | some e => reach U blocks f (e.next ++ rest) (h :: acc) := rfl

theorem reach_cons_cases (U : List Entry) (blocks : List Nat) (f h : Nat) (rest acc : List Nat) :
    ((h ∈ acc ∨ ¬ Eligible U blocks h) ∧
      reach U blocks (f+1) (h :: rest) acc = reach U blocks f rest acc) ∨
    ∃ e, h ∉ acc ∧ h ∈ blocks ∧ get U h = some e ∧
      reach U blocks (f+1) (h :: rest) acc = reach U blocks f (e.next ++ rest) (h :: acc) := by
  rw [reach_cons]
  by_cases ha : h ∈ acc
  · exact .inl ⟨.inl ha, by simp [ha]⟩
  by_cases hb : h ∈ blocks
  · cases he : get U h with
    | none => exact .inl ⟨.inr fun hel => by simp [Eligible, he] at hel, by simp [ha, hb]⟩
    | some e => exact .inr ⟨e, ha, hb, rfl, by simp [ha, hb]⟩
  · exact .inl ⟨.inr fun hel => hb hel.1, by simp [hb]⟩

theorem reach_sound {U : List Entry} {S : Nat → Prop} (hS : NextClosed U S) (blocks : List Nat) :
    ∀ (f : Nat) (stack acc : List Nat), (∀ h ∈ stack, S h) → (∀ h ∈ acc, S h ∧ h ∈ blocks) →
      ∀ h ∈ reach U blocks f stack acc, S h ∧ h ∈ blocks := by
  intro f
  induction f with
  | zero => intro stack acc _ ha; exact ha
  | succ f ih =>
    intro stack acc hs ha
    cases stack with
    | nil => exact ha
    | cons h rest =>
      have hrest : ∀ x ∈ rest, S x := fun x hx => hs x (List.mem_cons_of_mem _ hx)
      rcases reach_cons_cases U blocks f h rest acc with ⟨_, heq⟩ | ⟨e, _, hb, he, heq⟩ <;> rw [heq]
      · exact ih rest acc hrest ha
      · obtain ⟨heU, rfl⟩ := get_some he
        have hSh := hs _ List.mem_cons_self
        apply ih
        · intro x hx
          exact (List.mem_append.mp hx).elim (hS e heU hSh x) (hrest x)
        · intro x hx
          rcases List.mem_cons.mp hx with rfl | hx
          · exact ⟨hSh, hb⟩
          · exact ha x hx

/-- The fuel measure is `stack.length + unexpanded U acc`: an entry is expanded at most once, and expanding it moves
its links from this count to the stack. -/
def unexpanded (U : List Entry) (acc : List Nat) : Nat :=
  ((U.filter (fun e => !acc.contains e.hash)).flatMap (·.next)).length

theorem flatMap_filter_length_add {α β : Type} (f : α → List β) (q : α → Bool) {l : List α} {x : α}
    (hx : x ∈ l) (hq : q x = false) :
    ((l.filter q).flatMap f).length + (f x).length ≤ (l.flatMap f).length := by
  have hsplit := ((List.filter_append_perm q l).flatMap_right f).length_eq
  have hdrop : (f x).Sublist ((l.filter (!q ·)).flatMap f) :=
    List.sublist_flatten_of_mem (List.mem_map_of_mem (List.mem_filter.mpr ⟨hx, by rw [hq]; rfl⟩))
  have := hdrop.length_le
  rw [List.flatMap_append, List.length_append] at hsplit
  omega

theorem unexpanded_cons (U : List Entry) (acc : List Nat) (h : Nat) (e : Entry) (hl : get U h = some e)
    (hacc : h ∉ acc) : unexpanded U (h :: acc) + e.next.length ≤ unexpanded U acc := by
  obtain ⟨heU, rfl⟩ := get_some hl
  have hsplit : U.filter (fun x => !(e.hash :: acc).contains x.hash) =
      (U.filter (fun x => !acc.contains x.hash)).filter (fun x => x.hash != e.hash) := by
    rw [List.filter_filter]
    exact List.filter_congr fun x _ => by rw [List.contains_cons, Bool.not_or]; rfl
  unfold unexpanded
  rw [hsplit]
  exact flatMap_filter_length_add _ _ (List.mem_filter.mpr ⟨heU, by simpa using hacc⟩) (by simp)

def Settled (U : List Entry) (blocks acc stack : List Nat) (n : Nat) : Prop :=
  n ∈ acc ∨ n ∈ stack ∨ ¬ Eligible U blocks n

def LinksSettled (U : List Entry) (blocks acc stack : List Nat) : Prop :=
  ∀ h ∈ acc, ∀ e, get U h = some e → ∀ n ∈ e.next, Settled U blocks acc stack n

/-- The loop invariant is `LinksSettled`; at the end the stack is empty, so `Settled` there means collected or not
eligible. -/
theorem reach_complete (U : List Entry) (blocks : List Nat) :
    ∀ (f : Nat) (stack acc : List Nat), stack.length + unexpanded U acc < f →
      LinksSettled U blocks acc stack →
      (∀ n, Settled U blocks acc stack n → Settled U blocks (reach U blocks f stack acc) [] n) ∧
      LinksSettled U blocks (reach U blocks f stack acc) [] := by
  intro f
  induction f with
  | zero => intro _ _ hlt; omega
  | succ f ih =>
    intro stack acc hlt hinv
    cases stack with
    | nil => exact ⟨fun _ h => h, hinv⟩
    | cons hd rest =>
      simp only [List.length_cons] at hlt
      rcases reach_cons_cases U blocks f hd rest acc with ⟨hsk, heq⟩ | ⟨e, hna, hb, he, heq⟩ <;> rw [heq]
      · have mono : ∀ n, Settled U blocks acc (hd :: rest) n → Settled U blocks acc rest n := by
          rintro n (h | h | h)
          · exact Or.inl h
          · rcases List.mem_cons.mp h with rfl | h
            · exact hsk.imp_right Or.inr
            · exact Or.inr (Or.inl h)
          · exact Or.inr (Or.inr h)
        obtain ⟨h1, h2⟩ := ih rest acc (by omega) (fun h hh e he n hn => mono n (hinv h hh e he n hn))
        exact ⟨fun n hn => h1 n (mono n hn), h2⟩
      · have hmu := unexpanded_cons U acc hd e he hna
        have mono : ∀ n, Settled U blocks acc (hd :: rest) n →
            Settled U blocks (hd :: acc) (e.next ++ rest) n := by
          rintro n (h | h | h)
          · exact Or.inl (List.mem_cons_of_mem _ h)
          · rcases List.mem_cons.mp h with rfl | h
            · exact Or.inl List.mem_cons_self
            · exact Or.inr (Or.inl (List.mem_append_right _ h))
          · exact Or.inr (Or.inr h)
        obtain ⟨h1, h2⟩ := ih (e.next ++ rest) (hd :: acc) (by simp only [List.length_append]; omega)
          (fun h hh e' he' n hn => by
            rcases List.mem_cons.mp hh with rfl | hh
            · rw [he] at he'; cases he'
              exact Or.inr (Or.inl (List.mem_append_left _ hn))
            · exact mono n (hinv h hh e' he' n hn))
        exact ⟨fun n hn => h1 n (mono n hn), h2⟩

theorem recover_sound {U : List Entry} {S : Nat → Prop} (hS : NextClosed U S) {d : Disk}
    (h0 : ∀ h ∈ d.lheads ++ d.rheads, S h) : ∀ h ∈ recover U d, S h ∧ h ∈ d.blocks :=
  reach_sound hS d.blocks _ _ [] h0 (fun _ hh => nomatch hh)

theorem recover_complete (U : List Entry) (d : Disk) :
    (∀ h ∈ d.lheads ++ d.rheads, Eligible U d.blocks h → h ∈ recover U d) ∧
    (∀ h ∈ recover U d, ∀ e, get U h = some e → ∀ n ∈ e.next,
      Eligible U d.blocks n → n ∈ recover U d) := by
  have hfuel : (d.lheads ++ d.rheads).length + unexpanded U [] <
      d.blocks.length + (U.flatMap (·.next)).length + d.lheads.length + d.rheads.length + 1 := by
    have : unexpanded U [] = (U.flatMap (·.next)).length := by
      unfold unexpanded
      rw [show U.filter (fun e => !([] : List Nat).contains e.hash) = U from
        List.filter_eq_self.mpr (fun _ _ => rfl)]
    rw [this, List.length_append]; omega
  obtain ⟨h1, h2⟩ := reach_complete U d.blocks _ (d.lheads ++ d.rheads) [] hfuel (fun h hh => nomatch hh)
  have fin : ∀ n, Settled U d.blocks (recover U d) [] n → Eligible U d.blocks n → n ∈ recover U d := by
    rintro n (h | h | h) hel
    · exact h
    · cases h
    · exact absurd hel h
  exact ⟨fun h hh => fin h (h1 h (Or.inr (Or.inl hh))), fun h hh e he n hn => fin n (h2 h hh e he n hn)⟩

end Orbit
