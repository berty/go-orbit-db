import OrbitModel.Proofs.ReplInvS
/-!
# Replicator: `Inv` is preserved by every move, by `load` and by `cancel`
-/
namespace Orbit.Repl

variable {net : Nat → Info} {F : Nat → Prop} {c : Nat} {s s' : St}

-- `flush` stays folded below: what is needed of it is in its lemmas, and a unifier that may unfold it
-- evaluates `isIdle` wherever a state after `flush` meets another
attribute [local irreducible] flush

/-- a worker gives up on `hh`, or its fetch fails: the hash moves from `tasks` to `failed` -/
theorem tracked_drop {s' : St} {hh : Nat} (h2 : s'.tasks = s.tasks.filter (·.1 != hh)) (h5 : s'.log = s.log)
    (h8 : s'.failed = hh :: s.failed) {k : Nat} : tracked s k → tracked s' k := by
  unfold tracked
  rw [h5, h8, task_of_tasks_filter h2]
  rintro (h | h | h)
  · exact .inl h
  · by_cases e : hh = k
    · exact .inr (.inr (e ▸ List.mem_cons_self))
    · exact .inr (.inl (by rwa [if_neg e]))
  · exact .inr (.inr (List.mem_cons_of_mem _ h))

/-- the oplog and the retry list only grow, and a task goes only when its hash enters the retry list -/
theorem Move.tracked_mono (m : Move net F s s') (h : Nat) : tracked s h → tracked s' h := by
  cases m with
  | fail l1 l2 ctx hh hw hc =>
    exact tracked_drop (s := s) (failedDone_tasks { s with workers := l1 ++ l2 } hh) (failedDone_log _ _)
      (failedDone_failed _ _)
  | giveUp l1 l2 ctx hh hw hc =>
    exact tracked_drop (s := s) (hh := hh) (flush_tasks (giveUpSt s (l1 ++ l2) hh)) (flush_log _) (flush_failed _)
  | fetchedForeign l1 l2 ctx hh hw hc hf => exact id
  | fetched l1 l2 ctx hh hw hc hf => exact fun ht => (tracked_enqd (bufSt s _ hh) ..).2 (.inl ht)
  | finish l1 l2 ctx hh hw => exact tracked_done (s := { s with workers := l1 ++ l2 }) hh
  | slot l1 l2 ctx hh hw hc hs => exact tracked_setTask hh .fetching
  | deliver batch rest hp => exact Or.imp_left fun hk => mem_joinBatch.2 (.inl hk)

theorem Closure.drop {s' : St} (h : Closure net s) {hh : Nat}
    (h2 : s'.tasks = s.tasks.filter (·.1 != hh)) (h5 : s'.log = s.log)
    (h8 : s'.failed = hh :: s.failed) (hwk : ∀ w ∈ s'.workers, w ∈ s.workers) : Closure net s' := by
  refine h.transfer (fun k _ hk => got_mono (fun k hk => ?_) (fun w hw _ => hwk w hw) hk)
    (fun _ => tracked_drop h2 h5 h8)
  rw [task_of_tasks_filter h2] at hk
  split at hk
  · cases hk
  · exact hk

theorem Inv.cancel (h : Inv net c s) (ctx : Nat) : Inv net c (step net s (.cancel ctx)) where
  toInvS := h.toInvS.congr rfl rfl rfl rfl rfl rfl rfl
  closure := h.closure.congr rfl rfl rfl rfl
  sem_eq := h.sem_eq
  buf_idle := h.buf_idle

/-- `Load` empties `failed`: a hash that waited there is queued again, unless it is tracked otherwise -/
theorem load_tracked (net : Nat → Info) {ctx : Nat} {hs : List Nat} {h : Nat} (hh : tracked s h ∨ h ∈ hs) :
    tracked (step net s (.load ctx hs)) h := by
  rw [step_load]
  rcases hh with (hh | hh | hh) | hh
  · exact (tracked_enqd ..).2 (.inl (.inl hh))
  · exact (tracked_enqd ..).2 (.inl (.inr (.inl hh)))
  · exact tracked_enqd_freshOf _ ctx (List.mem_append.2 (.inl hh))
  · exact tracked_enqd_freshOf _ ctx (List.mem_append.2 (.inr hh))

theorem Inv.load (h : Inv net c s) (ctx : Nat) (hs : List Nat) : Inv net c (step net s (.load ctx hs)) := by
  have htr := fun l hl => load_tracked net (s := s) (ctx := ctx) (hs := hs) (h := l) (.inl hl)
  rw [step_load] at htr ⊢
  have hS0 : InvS net { s with failed := [] } := h.toInvS.congr rfl rfl rfl rfl rfl rfl rfl
  refine ⟨hS0.enqd ctx (freshOf_nodup ..) (fun k hk => (mem_freshOf.1 hk).2.2),
    h.closure.transfer (fun k _ hk => got_enqd hk) htr, h.sem_eq, fun hb => ?_⟩
  cases hnw : freshOf s (s.failed ++ hs) with
  | nil => rw [enqd_nil]; exact h.buf_idle hb
  | cons a nw => exact isIdle_false_of_task (t := .added) (by rw [task_enqd, if_pos List.mem_cons_self]) nofun

theorem Move.inv (h : Inv net c s) (m : Move net F s s') : Inv net c s' := by
  have htr := m.tracked_mono
  have hsem := h.sem_eq
  -- a worker that holds a slot leaves: the slot comes back, the counter goes down
  have hrel : 0 < s.inProgress → s.sem + 1 + (s.inProgress - 1) = c := fun h0 => by
    rw [Nat.add_assoc, Nat.add_sub_cancel' h0]; exact hsem
  -- a waiting worker takes a slot: the counter goes up
  have htake : s.sem ≠ 0 → s.sem - 1 + (s.inProgress + 1) = c := fun hs => by
    rw [Nat.add_comm _ 1, ← Nat.add_assoc, Nat.sub_add_cancel (Nat.pos_of_ne_zero hs)]; exact hsem
  -- every target is a record update of `s` (`failedDone`/`done` are `flush` at `failPre`/`donePre`): what the
  -- `InvS` lemmas ask about its fields is `rfl`
  cases m with
  | fail l1 l2 ctx hh hw hc =>
    exact Inv.flushed 1 (s := failPre { s with workers := l1 ++ l2 } hh)
      (h.toInvS.drop (w := ⟨ctx, hh, .fetching⟩) hw nofun rfl rfl rfl rfl rfl rfl rfl)
      (h.closure.drop (hh := hh) rfl rfl rfl (fun w hm => hw ▸ mem_split_of hm))
      (hrel (h.inProgress_pos hw rfl))
  | giveUp l1 l2 ctx hh hw hc =>
    exact Inv.flushed 0 (s := giveUpSt s (l1 ++ l2) hh)
      (h.toInvS.drop (w := ⟨ctx, hh, .waitSlot⟩) hw nofun rfl rfl rfl rfl rfl rfl rfl)
      (h.closure.drop (hh := hh) rfl rfl rfl (fun w hm => hw ▸ mem_split_of hm)) hsem
  | finish l1 l2 ctx hh hw =>
    have htk : ∀ k, task (donePre { s with workers := l1 ++ l2 } hh) k = _ := task_setTask s hh .fetched
    refine Inv.flushed 1 (s := donePre { s with workers := l1 ++ l2 } hh)
      (h.toInvS.complete hw rfl rfl rfl rfl rfl rfl rfl)
      (h.closure.transfer ?_ fun l hl => tracked_setTask (s := s) hh .fetched hl)
      (hrel (h.inProgress_pos hw rfl))
    rintro k _ (hk | ⟨w, hm, e, hp⟩)
    · rw [htk] at hk
      split at hk
      · next e => exact .inr ⟨_, hw ▸ List.mem_append_cons_self, e, rfl⟩
      · exact .inl hk
    · exact .inr ⟨w, hw ▸ mem_split_of hm, e, hp⟩
  | slot l1 l2 ctx hh hw hc hs =>
    have htk : ∀ k, task (slotSt s (l1 ++ ⟨ctx, hh, .fetching⟩ :: l2) hh) k = _ := task_setTask s hh .fetching
    refine ⟨h.toInvS.promote hw rfl rfl rfl rfl rfl rfl rfl, h.closure.transfer ?_ htr, htake hs,
      fun _ => isIdle_false_of_task (h := hh) (t := .fetching) (by rw [htk, if_pos rfl]) nofun⟩
    rintro k _ (hk | hk)
    · rw [htk] at hk
      split at hk
      · cases hk
      · exact .inl hk
    · exact (finAt_relabel hw rfl hk).elim .inr fun e => nomatch e.2
  | fetchedForeign l1 l2 ctx hh hw hc hf =>
    refine ⟨h.toInvS.toFin hw rfl rfl rfl rfl rfl (.inl ⟨hf, rfl⟩) rfl, h.closure.transfer ?_ htr,
      hsem, h.buf_idle⟩
    rintro k hnf (hk | hk)
    · exact .inl hk
    · exact (finAt_relabel hw rfl hk).elim .inr fun e => by rw [e.1, hf] at hnf; cases hnf
  | fetched l1 l2 ctx hh hw hc hf =>
    have hS := (h.toInvS.toFin (s' := bufSt s (l1 ++ ⟨ctx, hh, .finishing⟩ :: l2) hh) hw rfl rfl rfl rfl rfl
      (.inr ⟨hf, rfl⟩) rfl).enqd ctx (freshOf_nodup s (net hh).links) (fun k hk => (mem_freshOf.1 hk).2.2)
    refine ⟨hS, ?_, hsem, fun _ => isIdle_false_of_task (t := .fetching)
      (hS.w_task ⟨ctx, hh, .finishing⟩ (List.mem_append.2 (.inl (List.mem_append_cons_self))))
      nofun⟩
    intro k hk hnf l hl
    rcases got_enqd hk with hk | hk
    · exact htr l (h.closure k (.inl hk) hnf l hl)
    · rcases finAt_relabel hw rfl hk with hk | ⟨rfl, _⟩
      · exact htr l (h.closure k (.inr hk) hnf l hl)
      · -- the entry just fetched: its links have just been queued
        exact tracked_enqd_freshOf (bufSt s _ k) ctx hl
  | deliver batch rest hp =>
    exact { h with
      pend_fetched := fun b hb k hk => h.pend_fetched b (hp ▸ List.mem_cons_of_mem _ hb) k hk
      log_nodup := joinBatch_nodup h.log_nodup
      log_ok := by
        intro k hk
        rcases mem_joinBatch.1 hk with hk | ⟨hk, hv⟩
        · exact h.log_ok k hk
        · have := h.pend_fetched batch (hp ▸ List.mem_cons_self) k hk
          exact ⟨this.1, hv, this.2⟩
      fetched_in := by
        intro k hk hv hf
        rcases h.fetched_in k hk hv hf with h' | h' | ⟨b, hb, h'⟩
        · exact .inl (mem_joinBatch.2 (.inl h'))
        · exact .inr (.inl h')
        · rw [hp] at hb
          rcases List.mem_cons.1 hb with rfl | hb
          · exact .inl (mem_joinBatch.2 (.inr ⟨h', hv⟩))
          · exact .inr (.inr ⟨b, hb, h'⟩)
      closure := h.closure.transfer (fun k _ hk => hk) htr }

theorem inv_step (h : Inv net c s) (a : Act) : Inv net c (step net s a) := by
  rcases step_spec net s a with e | m | ⟨ctx, hs, rfl⟩ | ⟨ctx, rfl⟩
  · rw [e]; exact h
  · exact m.inv h
  · exact h.load ctx hs
  · exact h.cancel ctx

theorem Inv.deliver (h : Inv net c s) : Inv net c (step net s .deliver) := inv_step h _
theorem Inv.acquire (h : Inv net c s) (i : Nat) : Inv net c (step net s (.acquire i)) := inv_step h _
theorem Inv.fetchFail (h : Inv net c s) (i : Nat) : Inv net c (step net s (.fetchFail i)) := inv_step h _
theorem Inv.fetched (h : Inv net c s) (i : Nat) : Inv net c (step net s (.fetched i)) := inv_step h _
theorem Inv.finish (h : Inv net c s) (i : Nat) : Inv net c (step net s (.finish i)) := inv_step h _

end Orbit.Repl
