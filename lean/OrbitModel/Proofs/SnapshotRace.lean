import OrbitModel.Proofs.DiffAll
import OrbitModel.Proofs.SnapshotCodec
import OrbitModel.Proofs.LogReach
import OrbitModel.Proofs.Covers
/-!
# `SaveSnapshot` racing with appends/joins   (C13)

`SaveSnapshot` (`stores/basestore/utils.go`) takes no lock. It reads `oplog.Heads()` (state `L1`),
then `oplog.Len()` for the header's `Size` (state `L2`), then `oplog.GetEntries()` for the records
(state `L3`). The entry map only grows at its end: `L2.entries = L1.entries ++ x`,
`L3.entries = L2.entries ++ y`.

The snapshot written loads back (into a fresh store) as the state at the FIRST read
(`saveRacing_load`): the loader reads exactly `Size = |L2.entries|` records, a prefix of what was
written; it joins them with `L1`'s heads into an empty log, and `difference` only walks DOWN from
those heads.

The hypothesis `hclosed` (no entry that arrived between the first and the second read is a `next` of
an entry of `L1`) cannot be dropped: a `Good` log may have holes (links to entries it does not hold);
if a racing join fills one, the walk from `L1`'s heads goes through it and the loaded log holds it too
(`hole_filled_is_loaded`). It follows from `Closed L1` (`closed_no_fill`), e.g. for a log only ever
appended to.
-/
namespace Orbit.Snap

theorem saveRacing_eq_written (ser : Entry → List Nat) (serHeader : Image → List Nat) (L1 L2 L3 : Log) :
    saveRacing ser serHeader L1 L2 L3 = written (serHeader (racingImage L1 L2)) (L3.entries.map ser) := rfl

theorem mapM_de_ser {ser : Entry → List Nat} {de : List Nat → Option Entry} {es : List Entry}
    (h : ∀ e ∈ es, de (ser e) = some e) : (es.map ser).mapM de = some es := by
  induction es with
  | nil => rfl
  | cons e es ih =>
    rw [List.map_cons, List.mapM_cons, h e List.mem_cons_self,
      ih (fun x hx => h x (List.mem_cons_of_mem _ hx))]
    rfl

/-- `load` of a written file is one `join` into the empty log; the records after the announced ones
(`later`) are never read -/
theorem load_written {acl : Acl} {ser : Entry → List Nat} {de : List Nat → Option Entry}
    {deHeader : List Nat → Option (Nat × List Entry × Nat)} {hdr bs : List Nat} {es later : List Entry}
    {id : Nat} {heads : List Entry}
    (hw : written hdr ((es ++ later).map ser) = some bs) (hdh : deHeader hdr = some (id, heads, es.length))
    (hde : ∀ e ∈ es, de (ser e) = some e) :
    load acl de deHeader bs =
      match join acl.canAppend (Log.empty id) (ofList es) (ofList heads) id with
      | .ok L' => some L'
      | .error _ => none := by
  rw [List.map_append] at hw
  obtain ⟨rest, tl, h1, h2⟩ := decode_written hw
  rw [List.length_map] at h2
  unfold load
  simp only [h1, hdh, h2, mapM_de_ser hde]
  cases join acl.canAppend (Log.empty id) (ofList es) (ofList heads) id <;> rfl

theorem loadFetching_written {acl : Acl} {ser : Entry → List Nat} {de : List Nat → Option Entry}
    {deHeader : List Nat → Option (Nat × List Entry × Nat)} {hdr bs : List Nat} {es later : List Entry}
    {id : Nat} {heads : List Entry} (fetchAll : List Entry → List Entry)
    (hw : written hdr ((es ++ later).map ser) = some bs) (hdh : deHeader hdr = some (id, heads, es.length))
    (hde : ∀ e ∈ es, de (ser e) = some e) :
    loadFetching acl de deHeader fetchAll bs =
      match join acl.canAppend (Log.empty id) (ofList (fetchAll heads)) (ofList heads) id with
      | .ok L' => some L'
      | .error _ => none := by
  rw [List.map_append] at hw
  obtain ⟨rest, tl, h1, h2⟩ := decode_written hw
  rw [List.length_map] at h2
  unfold loadFetching
  simp only [h1, hdh, h2, mapM_de_ser hde]
  cases join acl.canAppend (Log.empty id) (ofList (fetchAll heads)) (ofList heads) id <;> rfl

theorem load_written_short {acl : Acl} {de : List Nat → Option Entry}
    {deHeader : List Nat → Option (Nat × List Entry × Nat)} {hdr bs : List Nat} {recs : List (List Nat)}
    {id size : Nat} {heads : List Entry}
    (hw : written hdr recs = some bs) (hdh : deHeader hdr = some (id, heads, size))
    (hlt : recs.length < size) : load acl de deHeader bs = none := by
  obtain ⟨rest, h1, h2⟩ := decode_written_short hw size hlt
  unfold load
  simp only [h1, hdh, h2]

/-- `difference` only walks down from the heads it is given: no link of `L1` leads into the extra entries
(`hclosed`), so it stays inside `L1` -/
theorem difference_sub_old {U : List Entry} (hU : HashDet U) {L1 : Log}
    {E2 : List Entry} (hI : Inv U L1) (h2U : ∀ e ∈ E2, e ∈ U)
    (hclosed : ∀ p ∈ L1.entries, ∀ c ∈ E2, c.hash ∈ p.next → c ∈ L1.entries) (B : Log) :
    ∀ e ∈ difference (ofList E2) (ofList (sortedHeads L1)) B, e ∈ L1.entries := by
  have hAU : ∀ e ∈ ofList E2, e ∈ U := fun e he => h2U e (mem_of_mem_ofList he)
  intro e he
  -- along the way `difference` took `e`: from a head of `L1`, then down links that stay in `L1`
  induction (mem_difference _ _ B e).mp he with
  | head hh ht =>
    obtain ⟨x, hx, hxe⟩ := List.mem_map.mp hh
    have hxL : x ∈ L1.entries := hI.heads_sub x (mem_sortedHeads.mp (mem_of_mem_ofList hx))
    exact (hU x (hI.sub x hxL) _ (hAU _ (get_mem ht.1)) (hxe.trans ht.hash.symm)) ▸ hxL
  | link hp hn ht ih =>
    exact hclosed _ (ih ((mem_difference _ _ B _).mpr hp)) _ (mem_of_mem_ofList (get_mem ht.1))
      (ht.hash ▸ hn)

theorem difference_sup_old {U : List Entry} (hU : HashDet U) (hM : ClockMono U) {L1 : Log}
    {E2 : List Entry} (hI : Inv U L1) (h2U : ∀ e ∈ E2, e ∈ U) (hsub : ∀ e ∈ L1.entries, e ∈ E2)
    (hA : Honest U (ofList E2) (ofList (sortedHeads L1)))
    (hidA : ∀ e ∈ ofList E2, e.logId = (Log.empty L1.id).id) :
    ∀ e ∈ L1.entries, e ∈ difference (ofList E2) (ofList (sortedHeads L1)) (Log.empty L1.id) := by
  have hmem := mem_ofList hU h2U
  have hHU : ∀ e ∈ sortedHeads L1, e ∈ U := fun e he =>
    hI.sub e (hI.heads_sub e (mem_sortedHeads.mp he))
  intro e he
  obtain ⟨h, hh, d⟩ := sortedHeads_cover hM hI e he
  obtain ⟨x, hx, rfl⟩ := List.mem_map.mp hh
  exact difference_reach hU (Log.empty L1.id) _ _ hA (by simp [Log.empty]) hidA (nextClosed_of_fresh fun _ _ => rfl)
    ((mem_ofList hU hHU x).mpr hx) ((hmem e).mpr (hsub e he))
    (d.mono (L' := asLog (ofList E2)) fun z hz => (hmem z).mpr (hsub z hz)) rfl

/-- joining the entries of a later state with the heads of an earlier one into the empty log gives the
earlier log back -/
theorem rejoin_old {U : List Entry} (hU : HashDet U) (hT : TieFree U) (hM : ClockMono U)
    {canAppend : Entry → Bool} {L1 : Log} {E2 : List Entry} (hG : Good U L1) (h2U : ∀ e ∈ E2, e ∈ U)
    (hsub : ∀ e ∈ L1.entries, e ∈ E2) (hid : ∀ e ∈ E2, e.logId = L1.id)
    (hclosed : ∀ p ∈ L1.entries, ∀ c ∈ E2, c.hash ∈ p.next → c ∈ L1.entries)
    (hacc : ∀ e ∈ L1.entries, canAppend e = true ∧ e.sigOk = true) :
    ∃ L', join canAppend (Log.empty L1.id) (ofList E2) (ofList (sortedHeads L1)) L1.id = .ok L' ∧
      (∀ e, e ∈ L'.entries ↔ e ∈ L1.entries) ∧ values L' = values L1 ∧
      sortedHeads L' = sortedHeads L1 := by
  have hI := hG.inv
  have hmem := mem_ofList hU h2U
  have hA : Honest U (ofList E2) (ofList (sortedHeads L1)) :=
    ⟨fun e he => h2U e (mem_of_mem_ofList he), fun e he =>
      (hmem e).mpr (hsub e (hI.heads_sub e (mem_sortedHeads.mp (mem_of_mem_ofList he))))⟩
  have hidA : ∀ e ∈ ofList E2, e.logId = (Log.empty L1.id).id := fun e he => hid e ((hmem e).mp he)
  have hdown := difference_sub_old hU hI h2U hclosed (Log.empty L1.id)
  obtain ⟨L', hj⟩ : ∃ L', join canAppend (Log.empty L1.id) (ofList E2) (ofList (sortedHeads L1)) L1.id = .ok L' :=
    ⟨_, join_ok_of_acceptable (Log.empty L1.id) _ _ (fun x hx => by
      obtain ⟨h1, h2⟩ := hacc x (hdown x hx)
      simp [acceptable, h1, h2])⟩
  have hE := inv_empty U L1.id
  have hI' : Inv U L' := inv_join_honest hU hE hA hidA hj
  have hent : ∀ e, e ∈ L'.entries ↔ e ∈ L1.entries := fun e => by
    rw [join_entries hU hE hA rfl hj e]
    exact ⟨fun h => h.elim (fun h => by simp [Log.empty] at h) (hdown e),
      fun h => Or.inr (difference_sup_old hU hM hI h2U hsub hA hidA e h)⟩
  exact ⟨L', hj, hent,
    values_unique hU hT hM L' L1 hI' (nodup_join (by simp [Log.empty]) hj) hI hG.nodup hent,
    sortedHeads_unique hT L' L1 hI' hI hent⟩

/-- Beyond `save_load`: the entries that arrived before the size was read (`x`) are genuine entries of this
log (`hxU`, `hid`) but need NOT be acceptable to the access controller; nothing at all is asked of `y`; the
codec hypotheses are asked only of what is read back; `hclosed`: see the head of the file. -/
theorem saveRacing_load {U : List Entry} {acl : Acl} {ser : Entry → List Nat}
    {serHeader : Image → List Nat} {de : List Nat → Option Entry}
    {deHeader : List Nat → Option (Nat × List Entry × Nat)} {L1 L2 L3 : Log} {x y : List Entry}
    {bs : List Nat}
    (hde : ∀ e ∈ L2.entries, de (ser e) = some e)
    (hdh : deHeader (serHeader (racingImage L1 L2)) = some (L1.id, sortedHeads L1, L2.entries.length))
    (hU : HashDet U) (hT : TieFree U) (hM : ClockMono U) (hG : Good U L1)
    (hacc : ∀ e ∈ L1.entries, acl.canAppend e = true ∧ e.sigOk = true)
    (h2 : L2.entries = L1.entries ++ x) (h3 : L3.entries = L2.entries ++ y)
    (hxU : ∀ e ∈ x, e ∈ U) (hid : ∀ e ∈ L2.entries, e.logId = L1.id)
    (hclosed : ∀ p ∈ L1.entries, ∀ c ∈ x, c.hash ∈ p.next → c ∈ L1.entries)
    (hs : saveRacing ser serHeader L1 L2 L3 = some bs) :
    ∃ L', load acl de deHeader bs = some L' ∧ (∀ e, e ∈ L'.entries ↔ e ∈ L1.entries) ∧
      values L' = values L1 ∧ sortedHeads L' = sortedHeads L1 := by
  have h2U : ∀ e ∈ L2.entries, e ∈ U := h2 ▸ List.forall_mem_append.2 ⟨hG.inv.sub, hxU⟩
  have hsub : ∀ e ∈ L1.entries, e ∈ L2.entries := fun e he => h2 ▸ List.mem_append_left _ he
  have hcl : ∀ p ∈ L1.entries, ∀ c ∈ L2.entries, c.hash ∈ p.next → c ∈ L1.entries := fun p hp c hc hn =>
    (List.mem_append.mp (h2 ▸ hc)).elim id fun h => hclosed p hp c h hn
  obtain ⟨L', hj, hL'⟩ := rejoin_old hU hT hM (canAppend := acl.canAppend) hG h2U hsub hid hcl hacc
  rw [saveRacing_eq_written, h3] at hs
  exact ⟨L', by rw [load_written hs hdh hde, hj], hL'⟩

/-- a log without holes satisfies `hclosed` -/
theorem closed_no_fill {U : List Entry} (hU : HashDet U) {L1 : Log} {x : List Entry}
    (hsub : ∀ e ∈ L1.entries, e ∈ U) (hxU : ∀ e ∈ x, e ∈ U) (hC : Closed L1) :
    ∀ p ∈ L1.entries, ∀ c ∈ x, c.hash ∈ p.next → c ∈ L1.entries := by
  exact fun p hp c hc hn => mem_of_has hU hsub (hxU c hc) (hC p hp c.hash hn)

/-- `saveRacing_load` for a log closed under `next` (e.g. one only ever appended to, or fully replicated):
`hclosed` is not needed -/
theorem saveRacing_load_closed {U : List Entry} {acl : Acl} {ser : Entry → List Nat}
    {serHeader : Image → List Nat} {de : List Nat → Option Entry}
    {deHeader : List Nat → Option (Nat × List Entry × Nat)} {L1 L2 L3 : Log} {x y : List Entry}
    {bs : List Nat}
    (hde : ∀ e, de (ser e) = some e)
    (hdh : ∀ img, deHeader (serHeader img) = some (img.id, img.heads, img.entries.length))
    (hU : HashDet U) (hT : TieFree U) (hM : ClockMono U) (hG : Good U L1) (hC : Closed L1)
    (hacc : ∀ e ∈ L1.entries, acl.canAppend e = true ∧ e.sigOk = true)
    (h2 : L2.entries = L1.entries ++ x) (h3 : L3.entries = L2.entries ++ y)
    (hxU : ∀ e ∈ x, e ∈ U) (hid : ∀ e ∈ L2.entries, e.logId = L1.id)
    (hs : saveRacing ser serHeader L1 L2 L3 = some bs) :
    ∃ L', load acl de deHeader bs = some L' ∧ (∀ e, e ∈ L'.entries ↔ e ∈ L1.entries) ∧
      values L' = values L1 ∧ sortedHeads L' = sortedHeads L1 :=
  saveRacing_load (fun e _ => hde e) (hdh _) hU hT hM hG hacc h2 h3 hxU hid
    (closed_no_fill hU hG.inv.sub hxU hC) hs

end Orbit.Snap
