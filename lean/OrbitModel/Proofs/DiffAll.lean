import OrbitModel.Proofs.JoinClosed
/-!
# `difference` takes the whole incoming log when it is fresh and covered by its heads   (C13)

`join_all_in` (JoinClosed) needs `ParentsIn` (no dangling link in the incoming log), which a general
`Good` log does not give. Here the incoming log is entirely *fresh* (none of its hashes is held) and
carries our log id: then every entry reachable from the incoming heads inside the incoming log is a
new item, dangling links or not.
-/
namespace Orbit

theorem heldOrTaken_closed {U : List Entry} (hU : HashDet U) (L : Log) (A headsA : OMap)
    (hA : Honest U A headsA) (hid : ∀ e ∈ A, e.logId = L.id)
    (hd : NextClosed A (fun h => has L.entries h = true)) :
    NextClosed A fun n => ∀ c ∈ A, c.hash = n → has L.entries n = true ∨ c ∈ difference A headsA L := by
  intro p hp hS n hn c hc hcn
  cases hh : has L.entries n
  · rcases hS p hp rfl with h | h
    · rw [hd p hp h n hn] at hh; cases hh
    · exact .inr (difference_closed A headsA L p h n hn c ⟨hcn ▸ get_of_mem hU hA.sub hc, hh, hid c hc⟩)
  · exact .inl rfl

/-- `hd`: below a held entry of `A` everything is held; without it the walk, which stops at held entries, misses
what lies below them (`nextClosed_of_fresh` for a log that holds nothing of `A`, `Closed.nextClosed` for a log without holes) -/
theorem difference_reach {U : List Entry} (hU : HashDet U) (L : Log) (A headsA : OMap)
    (hA : Honest U A headsA) (hLU : ∀ e ∈ L.entries, e ∈ U) (hid : ∀ e ∈ A, e.logId = L.id)
    (hd : NextClosed A (fun h => has L.entries h = true)) {x e : Entry} (hx : x ∈ headsA) (he : e ∈ A)
    (d : Desc (asLog A) x.hash e.hash) (hne : has L.entries e.hash = false) :
    e ∈ difference A headsA L := by
  -- the head is held or taken, hence so is everything below it
  refine (d.closed (heldOrTaken_closed hU L A headsA hA hid hd) (fun _ h => h) (fun c hc hcx => ?_)
    e he rfl).resolve_left (by rw [hne]; nofun)
  obtain rfl := hU c (hA.sub c hc) x (hA.sub x (hA.hsub x hx)) hcx
  exact (heads_complete hU L A headsA hA hLU hid c hx).imp_left has_of_mem

theorem nextClosed_of_fresh {A : OMap} {L : Log} (hfresh : ∀ e ∈ A, has L.entries e.hash = false) :
    NextClosed A (fun h => has L.entries h = true) :=
  fun p hp (h : has L.entries p.hash = true) => by rw [hfresh p hp] at h; cases h

theorem difference_all {U : List Entry} (hU : HashDet U) (L : Log) (A headsA : OMap)
    (hA : Honest U A headsA) (hLU : ∀ e ∈ L.entries, e ∈ U) (hid : ∀ e ∈ A, e.logId = L.id)
    (hfresh : ∀ e ∈ A, has L.entries e.hash = false)
    (hcov : CoveredBy (asLog A) (headsA.map (·.hash))) :
    ∀ e ∈ A, e ∈ difference A headsA L := by
  intro e he
  obtain ⟨h, hh, d⟩ := hcov e he
  obtain ⟨x, hx, rfl⟩ := List.mem_map.mp hh
  exact difference_reach hU L A headsA hA hLU hid (nextClosed_of_fresh hfresh) hx he d (hfresh e he)

theorem join_fresh_entries {U : List Entry} (hU : HashDet U) {canAppend : Entry → Bool} {L L' : Log}
    {A headsA : OMap} (hI : Inv U L) (hA : Honest U A headsA) (hid : ∀ e ∈ A, e.logId = L.id)
    (hfresh : ∀ e ∈ A, has L.entries e.hash = false)
    (hcov : CoveredBy (asLog A) (headsA.map (·.hash)))
    (hj : join canAppend L A headsA L.id = .ok L') :
    ∀ e, e ∈ L'.entries ↔ e ∈ L.entries ∨ e ∈ A := by
  intro e
  rw [join_entries hU hI hA rfl hj e]
  exact or_congr_right ⟨fun h => (difference_item A headsA L e h).1,
    difference_all hU L A headsA hA hI.sub hid hfresh hcov e⟩

end Orbit
