import OrbitModel.Proofs.Covers
/-!
# In a closed log of tightly clocked entries no clock time exceeds the number of entries   (C19)

go-ipfs-log gives a new entry the time `max(clock, heads) + 1`. When the clock of the log is the largest
time among its heads, the entry is exactly one tick above one of the entries it names in `next` (or has
time ≤ 1): this is the hypothesis `ClockTight`. Following those parents down from an entry with time `t`
meets the times `t, t-1, …, 1`, all inside any log that is closed under `next`: such a log holds at least
`t` entries.
-/
namespace Orbit

/-- A hypothesis on the universe, not a property of every history: `append` advances the clock also when the
access controller refuses the entry, and the entry of the next allowed append is then more than one tick above
its parents (on an empty log: time 2, `next = []`). -/
def ClockTight (U : List Entry) : Prop :=
  ∀ e ∈ U, e.time ≤ 1 ∨ ∃ p ∈ U, p.hash ∈ e.next ∧ e.time = p.time + 1

/-- `d` links below `e` the time is `e.time - d`, each parent being one tick below its child -/
theorem times_below {U : List Entry} (hU : HashDet U) (hT : ClockTight U) {L : Log}
    (hs : ∀ e ∈ L.entries, e ∈ U) (hc : Closed L) :
    ∀ d, ∀ e ∈ L.entries, ∀ j, 1 ≤ j → j + d = e.time → ∃ x ∈ L.entries, x.time = j := by
  intro d
  induction d with
  | zero => exact fun e he j _ hj => ⟨e, he, hj.symm⟩
  | succ d ih =>
    intro e he j h1 hj
    rcases hT e (hs e he) with h | ⟨p, hpU, hpn, hpt⟩
    · omega
    · obtain ⟨p', hp', hph⟩ := (has_iff _ _).1 (hc e he p.hash hpn)
      rw [← hU p' (hs p' hp') p hpU hph] at hpt
      exact ih p' hp' j h1 (by omega)

/-- the times `1, …, e.time` are all taken -/
theorem time_le_length {U : List Entry} (hU : HashDet U) (hT : ClockTight U) {L : Log}
    (hs : ∀ e ∈ L.entries, e ∈ U) (hc : Closed L) : ∀ e ∈ L.entries, e.time ≤ L.entries.length := by
  intro e he
  have hsub : List.range' 1 e.time ⊆ L.entries.map (·.time) := fun j hj => by
    obtain ⟨h1, h2⟩ := List.mem_range'_1.mp hj
    exact List.mem_map.mpr (times_below hU hT hs hc (e.time - j) e he j h1 (by omega))
  have := List.Nodup.length_le_of_subset List.nodup_range' hsub
  rwa [List.length_range', List.length_map] at this

end Orbit
