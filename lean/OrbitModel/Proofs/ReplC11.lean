import OrbitModel.Proofs.ReplHist
/-!
# Replicator: what one or two requests achieve from a state with `Inv` and `StIn`, and `replicator_complete`

`one_request` and `two_requests` are what `Properties/C10` and `Properties/C11` state for histories: the first is
`load_drain_clean`, the second puts `first_drain` (any request, run to quiescence, from any state with `Inv` and
`StIn`) before it.

`U` is any finite list of hashes containing every head ever requested and closed under the links
of this log's entries (`Closed`): without it the replicator could chase links forever. Fuel is
explicit: `fuelBound`/`fuelLoad` for a state with left-over workers, `3·|U|` from a quiescent one
(per hash: `acquire`, `fetched`, `finish`; plus one `deliver` for the single `LoadEnd` of the drain —
so `3·|U| < n` is exactly enough).
-/
namespace Orbit.Repl

variable {net : Nat → Info} {c : Nat} {U : List Nat}

/-- `fuelBound` after a `Load`, which spawns at most `|U|` workers (`load_workers_le`) -/
def fuelLoad (U : List Nat) (s : St) : Nat :=
  3 * U.length + (3 * U.length + 3) * (s.workers.length + U.length) + s.pending.length

theorem quiescent_of {s : St} (hw : s.workers = []) (hp : s.pending = []) : quiescent s = true := by
  simp [quiescent, hw, hp]

theorem first_drain (hc : 0 < c) (hU : Closed net U) {s : St} (hi : Inv net c s) (hin : StIn U s)
    (ctx : Nat) {hs : List Nat} (hhs : ∀ h ∈ hs, h ∈ U) {n : Nat} (hn : fuelLoad U s < n) :
    let s1 := drain net n (step net s (.load ctx hs))
    Inv net c s1 ∧ StIn U s1 ∧ s1.workers = [] ∧ s1.pending = [] ∧ s1.cancelled = s.cancelled ∧
    ∀ h ∈ hs, tracked s1 h := by
  intro s1
  have hfuel : pot U (step net s (.load ctx hs)) ≤ n := by
    have h1 := pot_le_fuelBound U (step net s (.load ctx hs))
    have h2 : fuelBound U (step net s (.load ctx hs)) ≤ fuelLoad U s := by
      unfold fuelBound fuelLoad
      rw [load_pending]
      have := Nat.mul_le_mul_left (3 * U.length + 3) (load_workers_le (net := net) hin ctx hhs)
      omega
    omega
  obtain ⟨hI, hS, hw, hp, hcan, htr, _⟩ :=
    drain_spec hc hU n (step net s (.load ctx hs)) (hi.load ctx hs) (hin.load ctx hhs) hfuel
  exact ⟨hI, hS, hw, hp, hcan.trans (load_cancelled ..), fun h hm => htr h (load_tracked net (.inr hm))⟩

theorem first_request_partial (hc : 0 < c) (hU : Closed net U) {s : St} (hi : Inv net c s)
    (hin : StIn U s) (ctx : Nat) {hs : List Nat} (hhs : ∀ h ∈ hs, h ∈ U) {n : Nat}
    (hn : fuelLoad U s < n) :
    let s1 := drain net n (step net s (.load ctx hs))
    quiescent s1 = true ∧
    ∀ x, ReachV net hs x → x ∈ s1.log ∨ ∃ y ∈ s1.failed, Reach net [y] x := by
  intro s1
  obtain ⟨hI, _, hw, hp, _, htr⟩ := first_drain hc hU hi hin ctx hhs hn
  refine ⟨quiescent_of hw hp, ?_⟩
  intro x hx
  obtain ⟨hr, hv, hnf⟩ := hx.reach
  rcases quiet_reach hI hw htr hr with h | h
  · exact Or.inl (settled_log hI hw hp h hv hnf)
  · exact Or.inr h

/-- **Two requests always suffice**, from any state satisfying `Inv`: after any `Load` run to quiescence
(its context may even be cancelled, and workers of earlier cancelled requests may still be around)
everything reachable is in if nothing is left in `failed`; in any case one more `Load` with a live
context — for any heads, even none — brings in everything reachable from the heads of both requests. -/
theorem two_requests (hc : 0 < c) (hU : Closed net U) {s : St} (hi : Inv net c s) (hin : StIn U s)
    (ctx : Nat) {hs : List Nat} (hhs : ∀ h ∈ hs, h ∈ U)
    {ctx' : Nat} (hctx' : s.cancelled.contains ctx' = false) {hs' : List Nat} (hhs' : ∀ h ∈ hs', h ∈ U)
    {n m : Nat} (hn : fuelLoad U s < n) (hm : 3 * U.length < m) :
    let s1 := drain net n (step net s (.load ctx hs))
    let s2 := drain net m (step net s1 (.load ctx' hs'))
    quiescent s1 = true ∧ (s1.failed = [] → ∀ x, ReachV net hs x → x ∈ s1.log) ∧
    quiescent s2 = true ∧ s2.failed = [] ∧ (∀ x, ReachV net (hs ++ hs') x → x ∈ s2.log) ∧
    (∀ x ∈ s2.log, (net x).valid = true ∧ (net x).foreign = false) := by
  intro s1 s2
  obtain ⟨hI1, hS1, hw1, hp1, hcan1, htr1⟩ := first_drain hc hU hi hin ctx hhs hn
  have hcl1 : Clean s1 := by intro w hw; rw [show s1.workers = [] from hw1] at hw; cases hw
  have hctx1 : s1.cancelled.contains ctx' = false := by
    rw [show s1.cancelled = _ from hcan1]; exact hctx'
  have hpot1 : potB U s1 < m := Nat.lt_of_le_of_lt (potB_quiescent hw1 hp1) hm
  obtain ⟨hI2, hw2, hp2, hf2, hall2⟩ :=
    load_drain_clean hc hU hI1 hS1 hcl1 hctx1 hhs' hpot1
  refine ⟨quiescent_of hw1 hp1, ?_, quiescent_of hw2 hp2, hf2, ?_, fun x hx => (hI2.log_ok x hx).2⟩
  · intro hf x hx
    obtain ⟨hr, hv, hnf⟩ := hx.reach
    exact settled_log hI1 hw1 hp1
      (settled_reach hI1 hw1 hf htr1 hr) hv hnf
  · intro x hx
    obtain ⟨hr, hv, hnf⟩ := hx.reach
    refine (hall2 (hs ++ hs') ?_ x hr).2 hv hnf
    intro h hm
    rcases List.mem_append.1 hm with hm | hm
    · exact Or.inl (htr1 h hm)
    · exact Or.inr hm

/-- **One request suffices when no worker of a cancelled request is left** (every aborted request
has noticed its cancellation: its workers failed and their hashes are in `failed`). -/
theorem one_request (hc : 0 < c) (hU : Closed net U) {s : St} (hi : Inv net c s) (hin : StIn U s)
    (hcl : Clean s) {ctx : Nat} (hctx : s.cancelled.contains ctx = false) {hs : List Nat}
    (hhs : ∀ h ∈ hs, h ∈ U) {n : Nat} (hn : fuelBound U s < n) :
    let s' := drain net n (step net s (.load ctx hs))
    quiescent s' = true ∧ s'.failed = [] ∧ (∀ x, ReachV net hs x → x ∈ s'.log) ∧
    (∀ x ∈ s'.log, (net x).valid = true ∧ (net x).foreign = false) := by
  intro s'
  have := potB_le_fuelBound U s
  obtain ⟨hI', hw', hp', hf', hall'⟩ := load_drain_clean hc hU hi hin hcl hctx hhs (n := n) (by omega)
  refine ⟨quiescent_of hw' hp', hf', ?_, fun x hx => (hI'.log_ok x hx).2⟩
  intro x hx
  obtain ⟨hr, hv, hnf⟩ := hx.reach
  exact (hall' hs (fun h hm => Or.inr hm) x hr).2 hv hnf

/-- what `Model/Net.lean` (C02) takes the handling of a message to do; nothing there refers to this theorem -/
theorem replicator_complete (hc : 0 < c) (hU : Closed net U)
    (hall : ∀ h, (net h).valid = true ∧ (net h).foreign = false)
    (ctx : Nat) (hs : List Nat) (hhs : ∀ h ∈ hs, h ∈ U) (n : Nat) (hn : 3 * U.length < n) :
    let s' := drain net n (step net { sem := c } (.load ctx hs))
    quiescent s' = true ∧ s'.failed = [] ∧ ∀ x, Reach net hs x → x ∈ s'.log := by
  intro s'
  obtain ⟨q1, q2, q3, _⟩ := one_request (ctx := ctx) hc hU (Inv.init net c) (.init U c)
    (fun _ h => absurd h List.not_mem_nil) rfl hhs
    (show fuelBound U { sem := c } < n from hn)
  refine ⟨q1, q2, fun x hx => q3 x ?_⟩
  induction hx with
  | head hm => exact .head hm (hall _).1 (hall _).2
  | link _ _ hl ih => exact .link ih hl (hall _).1 (hall _).2

end Orbit.Repl
