import OrbitModel.Proofs.EmitterStop
/-!
# C16, eventual delivery: a fair scheduler and a reading subscriber empty the pipeline

From every reachable alive state of the repaired code with capacity ≥ 1, `settle n` (`n` rounds of
`[g1, g2, g2, recv]`) with `n ≥ 6 * |pipeline| + 2` delivers everything
(`C16.slow_reader_eventually_gets_everything`).

Capacity 0 is excluded here — and only here: the model treats a channel send as "append if
`length < cap`", so an unbuffered channel (a rendezvous between G2's blocking send and the receiver)
never accepts anything. All safety theorems (`EmitterFifo`, `EmitterStop`) hold for capacity 0 too.

The proof is a potential argument: every transition of G1, G2 or the subscriber strictly lowers
`potential`, and if all three are blocked in an alive state its potential is 0; potential 0 means an
empty pipeline.
-/
namespace Orbit.Emit
variable {p : Bool} {s t : St} {a : Act}

def settleRound : List Act := [.g1, .g2, .g2, .recv]
def settle (n : Nat) : List Act := (List.replicate n settleRound).flatten

/-- the actions of the forwarder, the drainer and the subscriber: no emit, no cancellation -/
def Act.quiet : Act → Bool
  | .g1 | .g2 | .recv => true
  | _ => false

/-- control-state part: a woken G2 (`top`) still has to look at the queue, a `checked` one still has
to enter `Wait()`, a sending one to finish its send and come back -/
def g2pot : G2 → Nat
  | .top => 2 | .checked => 1 | .waiting => 0 | .sending _ => 4 | .exited => 0

/-- each event weighs more the further it is from the subscriber -/
def potential (s : St) : Nat :=
  s.chan.length + 3 * s.queue.length + 6 * s.bus.length + g2pot s.g2

theorem g2pot_bounds (g : G2) : 4 * (flight g).length ≤ g2pot g ∧ g2pot g ≤ 6 * (flight g).length + 2 := by
  cases g <;> simp [g2pot, flight]

theorem g2pot_wake_le (g : G2) : g2pot (wake g) ≤ g2pot g + 2 := by
  cases g <;> simp [wake, g2pot]

theorem potential_bounds (s : St) :
    (pipeline s).length ≤ potential s ∧ potential s ≤ 6 * (pipeline s).length + 2 := by
  have := g2pot_bounds s.g2
  simp only [potential, pipeline_eq, List.length_append]
  omega

/-- where progress is proved: context alive, control state consistent, room for at least one event -/
structure Good (s : St) : Prop where
  alive : s.cancelled = false
  ctl   : Ctl s
  cap   : 0 < s.cap

theorem Next.quiet (h : Next p s a t) (ha : a.quiet = true) :
    t.cancelled = s.cancelled ∧ t.emitted = s.emitted := by
  cases h <;> first | exact ⟨rfl, rfl⟩ | cases ha

theorem Next.good (h : Next false s a t) (ha : a.quiet = true) (hG : Good s) : Good t :=
  ⟨(h.quiet ha).1 ▸ hG.alive, h.ctl hG.ctl, h.cap ▸ hG.cap⟩

theorem Next.potential_lt (h : Next false s a t) (ha : a.quiet = true) (hG : Good s) :
    potential t < potential s := by
  have hal := hG.alive
  unfold potential
  cases h with
  | emit | cancel => cases ha
  | g1exit _ hc | g2exit _ hc | g2abort _ hc => cases hal.symm.trans hc
  | g2close _ hd => cases hal.symm.trans (hG.ctl.g1done_canc hd)
  | recv hch => simp [hch]
  | g1direct _ _ hb => simp [hb]; omega
  | g1enqueue _ _ hb =>
    -- the event moves from the bus (6) to the queue (3); waking G2 costs at most 2
    have := g2pot_wake_le s.g2
    simp only [hb, List.length_append, List.length_cons, List.length_nil]
    omega
  | g2check hg | g2wait hg => simp [hg, g2pot]
  | g2take hg _ hq => simp [hg, hq, g2pot]; omega
  | g2send hg => simp [hg, g2pot]; omega

theorem run_potential_le {l : List Act} (hq : ∀ a ∈ l, a.quiet = true) (hG : Good s) :
    Good (run false s l) ∧ potential (run false s l) ≤ potential s :=
  run_inv_mem (P := fun t => Good t ∧ potential t ≤ potential s)
    (fun _ a _ ha h ht => ⟨h.good (hq a ha) ht.1,
      Nat.le_trans (Nat.le_of_lt (h.potential_lt (hq a ha) ht.1)) ht.2⟩) ⟨hG, Nat.le_refl _⟩

theorem run_quiet_emitted {l : List Act} (hq : ∀ a ∈ l, a.quiet = true) :
    (run p s l).emitted = s.emitted :=
  run_inv_mem (P := fun t => t.emitted = s.emitted)
    (fun _ a _ ha h ht => (h.quiet (hq a ha)).2.trans ht) rfl

theorem potential_zero_of_blocked (hG : Good s) (h1 : Blocked false s .g1) (h2 : Blocked false s .g2)
    (h3 : Blocked false s .recv) : potential s = 0 := by
  have hcap := hG.cap
  have hal := hG.alive
  have hw := hG.ctl.wait_empty
  have hx := hG.ctl.exited_canc
  simp only [Blocked] at h1 h2 h3
  unfold potential
  rcases h2 with h2 | ⟨e, _, _, h2⟩ | h2
  · -- G2 inside `Wait()`: the queue is empty (`Ctl`); G1 is not done (live context) and not kept out
    -- by the lock, so the bus is empty; the subscriber finds the channel empty
    have hd : s.g1done ≠ true := fun hd => by simp_all [hG.ctl.g1done_canc hd]
    simp_all [g2pot]
  · -- G2 is not held up by a full channel: the subscriber finds it empty, and `0 < cap`
    rw [h3] at h2; simp only [List.length_nil] at h2; omega
  · -- G2 has not left its loop under a live context
    simp_all

theorem settleRound_progress (hG : Good s) (hne : potential s ≠ 0) :
    potential (run false s settleRound) < potential s := by
  have q : ∀ l, (∀ a ∈ l, a.quiet = true) → ∀ {a}, Next false s a (step false s a) → a.quiet = true →
      potential (run false (step false s a) l) < potential s := fun l hl a h ha =>
    Nat.lt_of_le_of_lt (run_potential_le hl (h.good ha hG)).2 (h.potential_lt ha hG)
  simp only [settleRound, run_cons]
  rcases step_spec false s .g1 with d | ⟨b1, e1⟩
  · exact q [.g2, .g2, .recv] (by decide) d rfl
  rw [e1]
  rcases step_spec false s .g2 with d | ⟨b2, e2⟩
  · exact q [.g2, .recv] (by decide) d rfl
  rw [e2, e2]
  rcases step_spec false s .recv with d | ⟨b3, _⟩
  · exact q [] nofun d rfl
  · exact absurd (potential_zero_of_blocked hG b1 b2 b3) hne

theorem settleRound_quiet : ∀ a ∈ settleRound, a.quiet = true := by decide

theorem settle_succ (n : Nat) : settle (n + 1) = settleRound ++ settle n := by
  simp [settle, List.replicate_succ]

theorem settle_quiet (n : Nat) : ∀ a ∈ settle n, a.quiet = true := fun a ha =>
  have ⟨_, hl, hal⟩ := List.mem_flatten.mp ha
  settleRound_quiet a ((List.mem_replicate.mp hl).2 ▸ hal)

theorem settle_empties (n : Nat) : ∀ s, Good s → potential s ≤ n →
    potential (run false s (settle n)) = 0 := by
  induction n with
  | zero => exact fun s _ hn => Nat.le_zero.mp hn
  | succ n ih =>
    intro s hG hn
    have hr := run_potential_le settleRound_quiet hG
    rw [settle_succ, run_append]
    refine ih _ hr.1 ?_
    by_cases h0 : potential s = 0
    · exact Nat.le_trans hr.2 (h0 ▸ Nat.zero_le n)
    · exact Nat.le_of_lt_succ (Nat.lt_of_lt_of_le (settleRound_progress hG h0) hn)

set_option maxRecDepth 8192 in
/-- non-vacuity: capacity 1, four events spread over channel, in-flight slot, queue and bus -/
example : let s := run false (init 1) [.emit 1, .emit 2, .emit 3, .emit 4, .g1, .g1, .g2, .g1]
    pipeline s = [1, 2, 3, 4] ∧ (run false s (settle 3)).delivered = [1, 2, 3] ∧
    (run false s (settle 26)).delivered = [1, 2, 3, 4] := by decide +kernel

/-- capacity 0 really is stuck in this model (why `Good` asks for `0 < cap`) -/
example : ∀ n ∈ [0, 1, 5, 20],
    (run false (run false (init 0) [.emit 1]) (settle n)).delivered = [] := by decide +kernel

end Orbit.Emit
