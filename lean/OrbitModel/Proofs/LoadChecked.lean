import OrbitModel.Proofs.StoreCovers
/-!
# `Load` says when a cached head did not come back   (C05, finding F32)
-/
namespace Orbit

theorem loadChecked_eq (acl : Acl) (s : Store) (fetch : Nat → OMap) (amount : Int) (mh : Option Int) :
    s.loadChecked acl fetch amount mh =
      if s.cachedHeads.any (fun h => !has (fetch h) h) then .error .notFound
      else s.load acl fetch amount mh := rfl

theorem loadChecked_ok_iff (acl : Acl) (s s' : Store) (fetch : Nat → OMap) (amount : Int) (mh : Option Int) :
    s.loadChecked acl fetch amount mh = .ok s' ↔
      (∀ h ∈ s.cachedHeads, has (fetch h) h = true) ∧ s.load acl fetch amount mh = .ok s' := by
  rw [loadChecked_eq]
  split
  · next hany =>
    obtain ⟨x, hx, hf⟩ := List.any_eq_true.mp hany
    exact ⟨nofun, fun h => by rw [h.1 x hx] at hf; cases hf⟩
  · next hany =>
    refine ⟨fun h => ⟨fun x hx => ?_, h⟩, And.right⟩
    cases hf : has (fetch x) x
    · exact absurd (List.any_eq_true.mpr ⟨x, hx, by rw [hf]; rfl⟩) hany
    · rfl

theorem loadChecked_error_of_missing_head (acl : Acl) (s : Store) (fetch : Nat → OMap) (amount : Int)
    (mh : Option Int) (h : Nat) (hm : h ∈ s.cachedHeads) (hf : has (fetch h) h = false) :
    s.loadChecked acl fetch amount mh = .error .notFound := by
  rw [loadChecked_eq, if_pos (List.any_eq_true.mpr ⟨h, hm, by rw [hf]; rfl⟩)]

/-- a context that has ended: the fetcher brings nothing -/
theorem loadChecked_under_an_ended_context (acl : Acl) (s : Store) (amount : Int) (mh : Option Int)
    (hne : s.cachedHeads ≠ []) : s.loadChecked acl (fun _ => []) amount mh = .error .notFound := by
  obtain ⟨h, hm⟩ := List.exists_mem_of_ne_nil _ hne
  exact loadChecked_error_of_missing_head acl s _ amount mh h hm rfl

/-- the store that `Store.loadReadable` (F61) runs `load` on, written out inline there: only the cached heads
that came back -/
def Store.headsBack (s : Store) (fetch : Nat → OMap) : Store :=
  { s with localHeads := s.localHeads.map (List.filter fun h => has (fetch h) h),
           remoteHeads := s.remoteHeads.map (List.filter fun h => has (fetch h) h) }

end Orbit
