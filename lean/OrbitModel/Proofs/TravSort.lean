import OrbitModel.Model.Trav
/-!
# Sorted insertion, `pushKids`/`step` facts for the generic traversal; finite strict orders and sorted lists

The order is only required to be total *on a carrier list `S`* (`StrictTotalOn`): the log order
`Entry.lt` is total only on a tie-free universe.
-/
set_option linter.unusedSectionVars false
namespace Trav
variable {α : Type} [DecidableEq α]

structure StrictTotalOn (lt : α → α → Bool) (S : List α) : Prop where
  irrefl : ∀ a, lt a a = false
  trans  : ∀ a b c, lt a b = true → lt b c = true → lt a c = true
  total  : ∀ a ∈ S, ∀ b ∈ S, a ≠ b → lt a b = true ∨ lt b a = true

structure StrictTotal (lt : α → α → Bool) : Prop where
  irrefl : ∀ a, lt a a = false
  trans  : ∀ a b c, lt a b = true → lt b c = true → lt a c = true
  total  : ∀ a b, a ≠ b → lt a b = true ∨ lt b a = true

theorem StrictTotal.on {lt : α → α → Bool} (h : StrictTotal lt) (S : List α) : StrictTotalOn lt S :=
  ⟨h.irrefl, h.trans, fun a _ b _ hne => h.total a b hne⟩

def Desc (lt : α → α → Bool) (l : List α) : Prop := l.Pairwise (fun a b => lt b a = true)

theorem nodup_of_sorted {α : Type} {r : α → α → Prop} (irrefl : ∀ a, ¬ r a a) {l : List α}
    (h : l.Pairwise r) : l.Nodup :=
  List.Pairwise.imp (S := (· ≠ ·)) (fun hab e => irrefl _ (e ▸ hab)) h

theorem desc_nodup {lt : α → α → Bool} (hirr : ∀ a, lt a a = false) {l : List α}
    (hl : Desc lt l) : l.Nodup :=
  nodup_of_sorted (fun a => by simp [hirr a]) hl

theorem eq_of_sorted {α : Type} {r : α → α → Prop} (irrefl : ∀ a, ¬ r a a)
    (trans : ∀ a b c, r a b → r b c → r a c) {l₁ l₂ : List α} (h₁ : l₁.Pairwise r)
    (h₂ : l₂.Pairwise r) (h : ∀ x, x ∈ l₁ ↔ x ∈ l₂) : l₁ = l₂ :=
  List.Perm.eq_of_pairwise (fun a _ _ _ hab hba => absurd (trans _ _ _ hab hba) (irrefl a)) h₁ h₂
    ((List.perm_ext_iff_of_nodup (nodup_of_sorted irrefl h₁) (nodup_of_sorted irrefl h₂)).mpr h)

theorem sublist_of_sorted {α : Type} [DecidableEq α] {r : α → α → Prop} (irrefl : ∀ a, ¬ r a a)
    (trans : ∀ a b c, r a b → r b c → r a c) {l₁ l₂ : List α} (h₁ : l₁.Pairwise r)
    (h₂ : l₂.Pairwise r) (hsub : ∀ x ∈ l₁, x ∈ l₂) : l₁.Sublist l₂ := by
  rw [eq_of_sorted irrefl trans h₁ (h₂.filter (· ∈ l₁)) fun x => by simpa using hsub x]
  exact List.filter_sublist

theorem before_of_sorted {α : Type} {r : α → α → Prop} (irrefl : ∀ a, ¬ r a a)
    (trans : ∀ a b c, r a b → r b c → r a c) {l : List α} (hl : l.Pairwise r) {c p : α}
    (hc : c ∈ l) (hp : p ∈ l) (hcp : r c p) : ∃ a b d, l = a ++ c :: b ++ p :: d := by
  obtain ⟨s, t, rfl⟩ := List.append_of_mem hp
  rw [List.pairwise_append] at hl
  have hne : c ≠ p := fun h => irrefl p (h ▸ hcp)
  rcases List.mem_append.mp hc with hcs | hct
  · obtain ⟨a, b, rfl⟩ := List.append_of_mem hcs
    exact ⟨a, b, t, rfl⟩
  · rcases List.mem_cons.mp hct with h | h
    · exact absurd h hne
    · exact absurd (trans _ _ _ hcp ((List.pairwise_cons.mp hl.2.1).1 c h)) (irrefl c)

theorem above_induction {lt : α → α → Bool} (irrefl : ∀ a, lt a a = false)
    (trans : ∀ a b c, lt a b = true → lt b c = true → lt a c = true) (S : List α) {C : α → Prop}
    (step : ∀ x ∈ S, (∀ y ∈ S, lt x y = true → C y) → C x) : ∀ x ∈ S, C x := by
  -- on the number of members above `x`: it drops from `x` to any `y` above it
  suffices ∀ n, ∀ x ∈ S, (S.filter (lt x)).length < n → C x from
    fun x hx => this _ x hx (Nat.lt_succ_self _)
  intro n
  induction n with
  | zero => intro _ _ h; omega
  | succ n ih =>
    intro x hx hlen
    refine step x hx fun y hy hxy => ih y hy (Nat.lt_of_lt_of_le ?_ (Nat.le_of_lt_succ hlen))
    have : S.filter (lt y) = (S.filter (lt x)).filter (lt y) := by
      rw [List.filter_filter]
      exact List.filter_congr fun z _ => by cases h : lt y z <;> simp [trans x y z hxy, h]
    rw [this]
    exact List.length_filter_lt_length_iff_exists.mpr
      ⟨y, List.mem_filter.mpr ⟨hy, hxy⟩, by simp [irrefl]⟩

theorem perm_insDesc (lt : α → α → Bool) (x : α) (l : List α) : (insDesc lt x l).Perm (x :: l) := by
  induction l with
  | nil => exact .refl _
  | cons z zs ih =>
    unfold insDesc
    split
    · exact .refl _
    · exact (ih.cons z).trans (.swap x z zs)

theorem perm_sortDesc (lt : α → α → Bool) (l : List α) : (sortDesc lt l).Perm l := by
  induction l with
  | nil => exact .refl _
  | cons z zs ih => exact (perm_insDesc lt z _).trans (ih.cons z)

theorem mem_insDesc (lt : α → α → Bool) (x y : α) (l : List α) :
    y ∈ insDesc lt x l ↔ y = x ∨ y ∈ l :=
  (perm_insDesc lt x l).mem_iff.trans List.mem_cons

theorem mem_sortDesc (lt : α → α → Bool) (y : α) (l : List α) :
    y ∈ sortDesc lt l ↔ y ∈ l :=
  (perm_sortDesc lt l).mem_iff

theorem length_sortDesc (lt : α → α → Bool) (l : List α) : (sortDesc lt l).length = l.length :=
  (perm_sortDesc lt l).length_eq

theorem desc_insDesc {lt : α → α → Bool} {S : List α} (h : StrictTotalOn lt S) (x : α) (l : List α)
    (hxS : x ∈ S) (hlS : ∀ y ∈ l, y ∈ S)
    (hl : Desc lt l) (hx : x ∉ l) : Desc lt (insDesc lt x l) := by
  induction l with
  | nil => simp [insDesc, Desc]
  | cons z zs ih =>
    obtain ⟨hzall, hz⟩ := List.pairwise_cons.mp hl
    unfold insDesc
    split
    · rename_i hlt
      exact List.pairwise_cons.mpr ⟨fun a ha => (List.mem_cons.mp ha).elim (· ▸ hlt)
        fun ha => h.trans _ _ _ (hzall a ha) hlt, hl⟩
    · rename_i hlt
      have hxz := (h.total x hxS z (hlS z List.mem_cons_self)
        fun e => hx (e ▸ List.mem_cons_self)).resolve_right hlt
      exact List.pairwise_cons.mpr
        ⟨fun a ha => ((mem_insDesc lt x a zs).mp ha).elim (· ▸ hxz) (hzall a),
          ih (fun y hy => hlS y (List.mem_cons_of_mem _ hy)) hz fun hm => hx (List.mem_cons_of_mem _ hm)⟩

theorem desc_sortDesc {lt : α → α → Bool} {S : List α} (h : StrictTotalOn lt S) (l : List α)
    (hlS : ∀ y ∈ l, y ∈ S) (hn : l.Nodup) :
    Desc lt (sortDesc lt l) := by
  induction l with
  | nil => exact .nil
  | cons z zs ih =>
    obtain ⟨hz, hn⟩ := List.nodup_cons.mp hn
    have hzs : ∀ y ∈ zs, y ∈ S := fun y hy => hlS y (List.mem_cons_of_mem _ hy)
    exact desc_insDesc h z _ (hlS z List.mem_cons_self) (fun y hy => hzs y ((mem_sortDesc lt y zs).mp hy))
      (ih hzs hn) fun hm => hz ((mem_sortDesc lt z zs).mp hm)

theorem pushKids_eq (kids : List α) : ∀ stack seen : List α, ∃ new : List α,
    pushKids kids stack seen = (new ++ stack, new ++ seen) ∧ new.Nodup ∧
    ∀ x, x ∈ new ↔ x ∈ kids ∧ x ∉ seen := by
  induction kids with
  | nil => exact fun _ _ => ⟨[], rfl, .nil, by simp⟩
  | cons c cs ih =>
    intro stack seen
    by_cases hc : c ∈ seen
    · obtain ⟨new, h, hnd, hm⟩ := ih stack seen
      refine ⟨new, by simpa [pushKids, hc] using h, hnd, fun x => ?_⟩
      rw [hm, List.mem_cons]
      exact ⟨fun h => ⟨.inr h.1, h.2⟩, fun h => ⟨h.1.resolve_left (· ▸ h.2 <| hc), h.2⟩⟩
    · obtain ⟨new, h, hnd, hm⟩ := ih (c :: stack) (c :: seen)
      have hcn : ∀ a ∈ new, a ≠ c := fun a ha e => ((hm a).mp ha).2 (e ▸ List.mem_cons_self)
      refine ⟨new ++ [c], by simpa [pushKids, hc] using h, ?_, fun x => ?_⟩
      · exact List.nodup_append.mpr ⟨hnd, List.pairwise_singleton _ _,
          fun a ha b hb => List.mem_singleton.mp hb ▸ hcn a ha⟩
      · by_cases hx : x = c <;> simp [hm, hx, hc]

theorem step_nil {lt : α → α → Bool} {children : α → List α} {s : St α} (h : s.stack = []) :
    step lt children s = s := by
  unfold step; rw [h]

theorem step_cons {lt : α → α → Bool} {children : α → List α} {s : St α} {e : α} {rest : List α}
    (h : s.stack = e :: rest) : ∃ new : List α,
    step lt children s = ⟨sortDesc lt (new ++ rest), new ++ e :: s.seen,
      if e ∈ s.out then s.out else s.out ++ [e]⟩ ∧ new.Nodup ∧
    ∀ x, x ∈ new ↔ x ∈ children e ∧ x ≠ e ∧ x ∉ s.seen := by
  obtain ⟨new, hpk, hnd, hnew⟩ := pushKids_eq (children e) rest (e :: s.seen)
  refine ⟨new, ?_, hnd, fun x => by rw [hnew, List.mem_cons, not_or]⟩
  unfold step; rw [h]; simp only [hpk]

theorem run_induction {lt : α → α → Bool} {children : α → List α} {I : Nat → St α → Prop} {s : St α}
    (h0 : I 0 s) (hstep : ∀ k t, I k t → I (k + 1) (step lt children t)) :
    ∀ n, I n (run lt children n s)
  | 0 => h0
  | n + 1 => run_induction (I := fun k => I (k + 1)) (hstep 0 s h0) (fun k => hstep (k + 1)) n

end Trav
