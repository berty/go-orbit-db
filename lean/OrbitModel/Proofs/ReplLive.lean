import OrbitModel.Proofs.ReplDrain
/-!
# Replicator: liveness under the deterministic scheduler (core lemmas)

At a quiescent state with `failed = []` every tracked hash has been fetched, and so has everything
reachable from it; accepted ones are in the oplog. One `Load` with a live context from a state
without workers of cancelled requests, run to quiescence, ends in such a state.
-/
namespace Orbit.Repl

/-- reachable from the heads through links of entries of this log. (The replicator follows the
links of every fetched entry that is not foreign, whether `Join` accepts it or not.) -/
inductive Reach (net : Nat → Info) (hs : List Nat) : Nat → Prop
  | head {h : Nat} : h ∈ hs → Reach net hs h
  | link {h l : Nat} : Reach net hs h → (net h).foreign = false → l ∈ (net h).links → Reach net hs l

/-- reachable through accepted entries of this log only (every entry on the path, the end point
included, is valid and not foreign): what the statements of C10 and C11 promise to make visible -/
inductive ReachV (net : Nat → Info) (hs : List Nat) : Nat → Prop
  | head {h : Nat} : h ∈ hs → (net h).valid = true → (net h).foreign = false → ReachV net hs h
  | link {h l : Nat} : ReachV net hs h → l ∈ (net h).links → (net l).valid = true →
      (net l).foreign = false → ReachV net hs l

theorem ReachV.reach {net : Nat → Info} {hs : List Nat} {x : Nat} (h : ReachV net hs x) :
    Reach net hs x ∧ (net x).valid = true ∧ (net x).foreign = false := by
  induction h with
  | head hm hv hf => exact ⟨.head hm, hv, hf⟩
  | link _ hl hv hf ih => exact ⟨.link ih.1 ih.2.2 hl, hv, hf⟩

theorem Reach.mono {net : Nat → Info} {hs hs' : List Nat} (hsub : ∀ h ∈ hs, h ∈ hs') {x : Nat}
    (h : Reach net hs x) : Reach net hs' x := by
  induction h with
  | head hm => exact .head (hsub _ hm)
  | link _ hf hl ih => exact .link ih hf hl

variable {net : Nat → Info} {c : Nat} {s : St} {U : List Nat}

theorem InvS.idle_task (hi : InvS net s) (hw : s.workers = []) {x : Nat} {t : TS}
    (ht : task s x = some t) : t = .fetched := by
  refine Decidable.by_contra fun hne => ?_
  obtain ⟨w, hm, _⟩ := hi.task_w x t ht hne
  rw [hw] at hm; cases hm

theorem quiet_fetched (hi : Inv net c s) (hw : s.workers = []) {x : Nat} (hx : tracked s x) :
    task s x = some .fetched ∨ x ∈ s.failed := by
  rcases hx with hx | hx | hx
  · exact Or.inl (hi.log_ok x hx).1
  · cases ht : task s x with
    | none => exact absurd ht hx
    | some t => exact Or.inl (hi.idle_task hw ht ▸ rfl)
  · exact Or.inr hx

theorem quiet_reach (hi : Inv net c s) (hw : s.workers = []) {hs : List Nat}
    (hh : ∀ h ∈ hs, tracked s h) {x : Nat} (hx : Reach net hs x) :
    task s x = some .fetched ∨ ∃ y ∈ s.failed, Reach net [y] x := by
  induction hx with
  | head hm =>
    exact (quiet_fetched hi hw (hh _ hm)).imp_right fun h => ⟨_, h, .head List.mem_cons_self⟩
  | link _ hnf hl ih =>
    rcases ih with ih | ⟨y, hy, hr⟩
    · exact (quiet_fetched hi hw (hi.closure _ (Or.inl ih) hnf _ hl)).imp_right
        fun h => ⟨_, h, .head List.mem_cons_self⟩
    · exact Or.inr ⟨y, hy, .link hr hnf hl⟩

theorem settled_reach (hi : Inv net c s) (hw : s.workers = []) (hf : s.failed = []) {hs : List Nat}
    (hh : ∀ h ∈ hs, tracked s h) {x : Nat} (hx : Reach net hs x) : task s x = some .fetched :=
  (quiet_reach hi hw hh hx).resolve_right fun ⟨_, hy, _⟩ => by rw [hf] at hy; cases hy

theorem settled_log (hi : Inv net c s) (hw : s.workers = []) (hp : s.pending = []) {x : Nat}
    (hx : task s x = some .fetched) (hv : (net x).valid = true) (hnf : (net x).foreign = false) :
    x ∈ s.log := by
  have hidle : isIdle s = true :=
    isIdle_true_of hi.keys_nodup (by rw [hi.inprog_eq, hw]; rfl) (fun _ _ => hi.idle_task hw)
  have hb : s.buffer = [] := Decidable.by_contra fun hb => by
    rw [hi.buf_idle hb] at hidle; cases hidle
  rcases hi.fetched_in x hx hv hnf with h | h | ⟨b, hb', _⟩
  · exact h
  · rw [hb] at h; cases h
  · rw [hp] at hb'; cases hb'

theorem load_cancelled (net : Nat → Info) (s : St) (ctx : Nat) (hs : List Nat) :
    (step net s (.load ctx hs)).cancelled = s.cancelled := by rw [step_load]; rfl

theorem load_failed (net : Nat → Info) (s : St) (ctx : Nat) (hs : List Nat) :
    (step net s (.load ctx hs)).failed = [] := by rw [step_load]; rfl

theorem load_pending (net : Nat → Info) (s : St) (ctx : Nat) (hs : List Nat) :
    (step net s (.load ctx hs)).pending = s.pending := by rw [step_load]; rfl

theorem load_fresh (hin : StIn U s) {hs : List Nat} (hhs : ∀ h ∈ hs, h ∈ U) :
    ∀ k ∈ freshOf s (s.failed ++ hs), k ∈ U ∧ isFresh s k = true :=
  fun k hk => ⟨(List.mem_append.1 (mem_freshOf.1 hk).1).elim (hin.failed k) (hhs k),
    isFresh_iff.2 (mem_freshOf.1 hk).2⟩

theorem StIn.load (hin : StIn U s) (ctx : Nat) {hs : List Nat} (hhs : ∀ h ∈ hs, h ∈ U) :
    StIn U (step net s (.load ctx hs)) := by
  rw [step_load]
  refine ⟨fun w hw => ?_, nofun⟩
  rcases List.mem_append.1 hw with hw | hw
  · exact hin.workers w hw
  · obtain ⟨k, hk, rfl⟩ := mem_spawn.1 hw
    exact (load_fresh hin hhs k hk).1

theorem Clean.load (hcl : Clean s) {ctx : Nat} (hctx : s.cancelled.contains ctx = false) (hs : List Nat) :
    Clean (step net s (.load ctx hs)) := by
  rw [step_load]
  intro w hw
  rcases List.mem_append.1 hw with hw | hw
  · exact hcl w hw
  · obtain ⟨k, _, rfl⟩ := mem_spawn.1 hw
    exact hctx

theorem potB_load_le (hin : StIn U s) {ctx : Nat} (hctx : s.cancelled.contains ctx = false) {hs : List Nat}
    (hhs : ∀ h ∈ hs, h ∈ U) : potB U (step net s (.load ctx hs)) ≤ potB U s := by
  rw [step_load]
  exact potB_enqd_le (s := { s with failed := [] }) hctx (freshOf_nodup ..) (load_fresh hin hhs)

theorem load_workers_le (hin : StIn U s) (ctx : Nat) {hs : List Nat} (hhs : ∀ h ∈ hs, h ∈ U) :
    (step net s (.load ctx hs)).workers.length ≤ s.workers.length + U.length := by
  have := fresh_enqd (s := s) ctx (freshOf_nodup ..) (load_fresh hin hhs)
  have := fresh_le_length U s
  rw [step_load, enqd_workers, List.length_append, spawn, List.length_map]
  show s.workers.length + _ ≤ _  -- (`{ s with failed := [] }.workers` is `s.workers`)
  omega

theorem load_drain_clean (hc : 0 < c) (hU : Closed net U) (hi : Inv net c s) (hin : StIn U s)
    (hcl : Clean s) {ctx : Nat} (hctx : s.cancelled.contains ctx = false) {hs : List Nat}
    (hhs : ∀ h ∈ hs, h ∈ U) {n : Nat} (hn : potB U s < n) :
    let s' := drain net n (step net s (.load ctx hs))
    Inv net c s' ∧ s'.workers = [] ∧ s'.pending = [] ∧ s'.failed = [] ∧
    ∀ hs0 : List Nat, (∀ h ∈ hs0, tracked s h ∨ h ∈ hs) → ∀ x, Reach net hs0 x →
      task s' x = some .fetched ∧ ((net x).valid = true → (net x).foreign = false → x ∈ s'.log) := by
  intro s'
  obtain ⟨hI, _, hw, hp, _, htr, hfail⟩ :=
    drain_spec hc hU n (step net s (.load ctx hs)) (hi.load ctx hs) (hin.load ctx hhs) (by
      have := potB_load_le (net := net) hin hctx hhs
      have := busy_le (step net s (.load ctx hs)).workers
      unfold pot; omega)
  have hf : s'.failed = [] := (hfail (hcl.load hctx hs)).trans (load_failed ..)
  refine ⟨hI, hw, hp, hf, fun hs0 hh x hx => ?_⟩
  have hfx : task s' x = some .fetched :=
    settled_reach hI hw hf (fun h hm => htr h (load_tracked net (hh h hm))) hx
  exact ⟨hfx, settled_log hI hw hp hfx⟩

end Orbit.Repl
