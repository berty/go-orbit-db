import OrbitModel.Model.Refetch
/-!
# The refetch loop of `Load` ends, and ends with enough   (C15, F57)
-/
namespace Orbit.Refetch

def kept (good : Entry → Bool) (F : OMap) : Nat := (F.filter good).length

theorem kept_add_refused (good : Entry → Bool) (F : OMap) : kept good F + refused good F = F.length := by
  rw [kept, refused, ← List.length_append]
  exact (List.filter_append_perm good F).length_eq

theorem done_iff (fetchN : Nat → OMap) (good : Entry → Bool) (amount len : Nat) :
    done fetchN good amount len = true ↔
      refused good (fetchN len) = 0 ∨ (fetchN len).length < len ∨ kept good (fetchN len) ≥ amount := by
  rw [done, Nat.sub_eq_of_eq_add (kept_add_refused good (fetchN len)).symm]
  simp only [Bool.or_eq_true, beq_iff_eq, decide_eq_true_eq, or_assoc]

theorem le_nextLen (amount len r : Nat) : amount + r ≤ nextLen amount len r := by
  unfold nextLen
  split
  · exact Nat.le_refl _
  · exact Nat.le_of_not_gt ‹_›

/-- not done: the fetch was full, something was left out and too little kept, so that already
`amount + refused` is more than `len` -/
theorem nextLen_gt {fetchN : Nat → OMap} {good : Entry → Bool} {amount len : Nat}
    (hle : (fetchN len).length ≤ len) (hd : ¬ done fetchN good amount len = true) :
    len < nextLen amount len (refused good (fetchN len)) := by
  have := kept_add_refused good (fetchN len)
  simp only [done_iff, not_or, Nat.not_lt, Nat.not_le] at hd
  exact Nat.lt_of_lt_of_le (by omega) (le_nextLen ..)

/-- `hT`: no fetch returns more than the `T` entries there are; then `T + 1` rounds are enough -/
theorem loopR_done (fs : Nat → Nat → OMap) (good : Entry → Bool) (amount T : Nat)
    (hle : ∀ k n, (fs k n).length ≤ n) (hT : ∀ k n, (fs k n).length ≤ T) :
    ∀ fuel k len, T + 1 ≤ fuel + len →
      done (fs (loopR fs good amount fuel k len).1) good amount (loopR fs good amount fuel k len).2 = true
  | 0, k, len, h => by
    -- asked for more than there is: the fetch comes back short
    have := hT k len
    exact (done_iff (fs k) good amount len).mpr (Or.inr (Or.inl (by omega)))
  | fuel+1, k, len, h => by
    unfold loopR
    split
    · assumption
    · rename_i hd
      have := nextLen_gt (hle k len) hd
      exact loopR_done fs good amount T hle hT fuel _ _ (by omega)

theorem loopR_keeps_enough (fs : Nat → Nat → OMap) (good : Entry → Bool) (amount T : Nat)
    (hle : ∀ k n, (fs k n).length ≤ n) (hT : ∀ k n, (fs k n).length ≤ T) (len : Nat) :
    let r := loopR fs good amount (T + 1) 0 len
    kept good (fs r.1 r.2) ≥ amount ∨ (fs r.1 r.2).length < r.2 ∨ refused good (fs r.1 r.2) = 0 := by
  rcases (done_iff ..).mp (loopR_done fs good amount T hle hT (T + 1) 0 len (by omega)) with h | h | h
  · exact Or.inr (Or.inr h)
  · exact Or.inr (Or.inl h)
  · exact Or.inl h

theorem loopR_const (fetchN : Nat → OMap) (good : Entry → Bool) (amount : Nat) :
    ∀ fuel k len, (loopR (fun _ => fetchN) good amount fuel k len).2 = loop fetchN good amount fuel len
  | 0, _, _ => rfl
  | fuel+1, k, len => by
    unfold loopR loop
    split
    · rfl
    · exact loopR_const fetchN good amount fuel (k + 1) _

/-- F63 in small: the 3 newest entries reached from the head belong to another log; two rounds, and the
second one does not walk again through the foreign entries the first one met -/
theorem excluding_fetch_example :
    let e (h : Nat) (lg : Nat) : Entry := { hash := h, logId := lg, time := h, cid := 0, next := [] }
    let all : OMap := [e 9 1, e 8 7, e 7 7, e 6 7, e 5 1, e 4 1, e 3 1, e 2 1, e 1 1]
    let seen (k : Nat) : OMap := (all.take (3 * k)).filter (fun x => x.logId != 1)
    let fs : Nat → Nat → OMap := fun k n => (all.filter (fun x => !(seen k).contains x)).take n
    let good : Entry → Bool := fun x => x.logId == 1
    loopR fs good 3 10 0 3 = (1, 6) ∧ kept good (fs 1 6) = 5 ∧ (fs 1 6).map (·.hash) = [9, 6, 5, 4, 3, 2] := by decide +kernel

end Orbit.Refetch
