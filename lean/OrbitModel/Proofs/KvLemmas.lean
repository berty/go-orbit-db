import OrbitModel.Spec.Replay
/-!
# Shared lemmas for the key-value and document index proofs

Every entry contributes a list of atomic writes, `(key, some v)` (put) / `(key, none)` (erase). The Go
index scans the writes newest → oldest with a `handled` set (`wStep`), the specification replays them
oldest → newest (`applyW`). Both are characterised by `firstW`: the first write to a key in a list of
writes.
-/
namespace Orbit

theorem KV.get_nil (k : String) : KV.get [] k = none := rfl

theorem KV.get_cons (p : String × String) (m : KV) (k : String) :
    KV.get (p :: m) k = if k = p.1 then some p.2 else KV.get m k := by
  unfold KV.get
  rw [List.find?_cons]
  by_cases h : k = p.1
  · rw [if_pos h, beq_iff_eq.mpr h.symm]; rfl
  · rw [if_neg h, beq_eq_false_iff_ne.mpr (Ne.symm h)]

theorem KV.get_erase (m : KV) (k k' : String) :
    KV.get (KV.erase m k) k' = if k' = k then none else KV.get m k' := by
  unfold KV.get KV.erase
  rw [List.find?_filter]
  split
  · next h => rw [List.find?_eq_none.mpr (fun p _ => by simp [h])]; rfl
  · next h =>
    congr 2
    funext p
    by_cases hp : p.1 = k'
    · simp [hp, h]
    · simp [hp]

theorem KV.get_put (m : KV) (k v k' : String) :
    KV.get (KV.put m k v) k' = if k' = k then some v else KV.get m k' := by
  unfold KV.put
  rw [KV.get_cons, KV.get_erase]
  by_cases hk : k' = k <;> simp [hk]

theorem KV.equiv_refl (a : KV) : KV.equiv a a := fun _ => rfl
theorem KV.equiv_symm {a b : KV} (h : KV.equiv a b) : KV.equiv b a := fun k => (h k).symm
theorem KV.equiv_trans {a b c : KV} (h₁ : KV.equiv a b) (h₂ : KV.equiv b c) : KV.equiv a c :=
  fun k => (h₁ k).trans (h₂ k)

abbrev Wr := String × Option String

def applyW (m : KV) (w : Wr) : KV :=
  match w.2 with
  | some v => KV.put m w.1 v
  | none => KV.erase m w.1

def wStep (acc : List String × KV) (w : Wr) : List String × KV :=
  if acc.1.contains w.1 then acc else (w.1 :: acc.1, applyW acc.2 w)

/-- `none`: no write to the key; `some none`: the first write to it is an erase -/
def firstW : List Wr → String → Option (Option String)
  | [], _ => none
  | w :: ws, k => if k = w.1 then some w.2 else firstW ws k

theorem KV.get_applyW (m : KV) (w : Wr) (k : String) :
    KV.get (applyW m w) k = if k = w.1 then w.2 else KV.get m k := by
  unfold applyW
  cases h : w.2 with
  | some v => simp only [KV.get_put]
  | none => simp only [KV.get_erase]

theorem firstW_append (a b : List Wr) (k : String) :
    firstW (a ++ b) k = (firstW a k).or (firstW b k) := by
  induction a with
  | nil => simp [firstW]
  | cons w ws ih =>
    simp only [List.cons_append, firstW]
    by_cases h : k = w.1
    · simp [h]
    · simp [h, ih]

theorem firstW_eq_none {ws : List Wr} {k : String} :
    firstW ws k = none ↔ k ∉ ws.map (·.1) := by
  induction ws with
  | nil => exact ⟨nofun, fun _ => rfl⟩
  | cons w ws ih =>
    rw [firstW, List.map_cons, List.mem_cons, not_or, ← ih]
    split
    · next h => exact ⟨nofun, fun h' => absurd h h'.1⟩
    · next h => exact ⟨fun h' => ⟨h, h'⟩, fun h' => h'.2⟩

theorem firstW_mem {ws : List Wr} {k : String} {x : Option String} (h : firstW ws k = some x) :
    (k, x) ∈ ws := by
  induction ws with
  | nil => cases h
  | cons w ws ih =>
    rw [firstW] at h
    split at h
    · next hk => cases h; exact hk ▸ List.mem_cons_self
    · exact List.mem_cons_of_mem _ (ih h)

theorem firstW_reverse {ws : List Wr} (hnd : (ws.map (·.1)).Nodup) (k : String) :
    firstW ws.reverse k = firstW ws k := by
  induction ws with
  | nil => rfl
  | cons w ws ih =>
    rw [List.map_cons, List.nodup_cons] at hnd
    rw [List.reverse_cons, firstW_append, ih hnd.2]
    simp only [firstW]
    by_cases h : k = w.1
    · have : firstW ws k = none := firstW_eq_none.mpr (h ▸ hnd.1)
      rw [this, if_pos h]; rfl
    · simp [h]

theorem firstW_flatMap_congr {α : Type} (f g : α → List Wr) (l : List α) (k : String)
    (h : ∀ e ∈ l, firstW (f e) k = firstW (g e) k) :
    firstW (l.flatMap f) k = firstW (l.flatMap g) k := by
  induction l with
  | nil => rfl
  | cons e es ih =>
    simp only [List.flatMap_cons, firstW_append]
    rw [h e List.mem_cons_self, ih (fun x hx => h x (List.mem_cons_of_mem _ hx))]

theorem get_foldr_applyW (ws : List Wr) (m : KV) (k : String) :
    KV.get (ws.foldr (fun w m => applyW m w) m) k = (firstW ws k).getD (KV.get m k) := by
  induction ws with
  | nil => rfl
  | cons w ws ih =>
    simp only [List.foldr_cons, KV.get_applyW, firstW]
    by_cases h : k = w.1
    · simp [h]
    · simp [h, ih]

theorem get_foldl_wStep (ws : List Wr) (h : List String) (m : KV) (k : String) :
    KV.get (ws.foldl wStep (h, m)).2 k
      = if k ∈ h then KV.get m k else (firstW ws k).getD (KV.get m k) := by
  induction ws generalizing h m with
  | nil => simp [firstW]
  | cons w ws ih =>
    rw [List.foldl_cons]
    by_cases hc : w.1 ∈ h
    · have : h.contains w.1 = true := List.contains_iff_mem.mpr hc
      have hs : wStep (h, m) w = (h, m) := by simp only [wStep, this, if_true]
      rw [hs, ih]
      by_cases hk : k ∈ h
      · simp [hk]
      · have : ¬ k = w.1 := fun e => hk (e ▸ hc)
        simp [hk, firstW, this]
    · have : h.contains w.1 = false := by
        rw [← Bool.not_eq_true, List.contains_iff_mem]; exact hc
      have hs : wStep (h, m) w = (w.1 :: h, applyW m w) := by
        simp only [wStep, this, Bool.false_eq_true, if_false]
      rw [hs, ih, KV.get_applyW]
      by_cases hk : k = w.1
      · subst hk
        simp [hc, firstW]
      · simp [hk, firstW, List.mem_cons]

end Orbit
