import OrbitModel.Generated.GenConsts
/-!
# Regenerated Go fragment = hand-written model (tie 2); one small module per fragment, so that a
change to one Go function only stops the theorems tied to it
-/
namespace Orbit

theorem gen_referenceCount : Gen.referenceCount = 64 := rfl

end Orbit
