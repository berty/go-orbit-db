import OrbitModel.Proofs.LoadLimit
/-!
# What a fetcher returns (`Fetched`), and: `Load` of one head as it was before the F30 repair (`loadHead0`,
the clamp) never panics on a closed log (a fresh store), or once `amount` entries are held   (C15)

`Fetched` with `fetched_honest`, `fetched_lid`, `fetched_covered` is what `LoadHead`, `LoadRejoin` and C15 start from; the
rest of the file serves `loadHead0_no_panic` only.
-/
namespace Orbit

/-- what `NewFromEntryHash` fetched for a head of `L`: blocks of the universe, written for this log -/
structure Fetched (U : List Entry) (L : Log) (F : List Entry) : Prop where
  sub : ∀ e ∈ F, e ∈ U
  lid : ∀ e ∈ F, e.logId = L.id

theorem fetched_honest {U : List Entry} {L : Log} {F : List Entry} (hF : Fetched U L F) :
    Honest U (ofList F) (ofList (findHeads (ofList F))) :=
  ⟨fun e he => hF.sub e (mem_of_mem_ofList he),
   fun e he => ((mem_findHeads _ e).mp (mem_of_mem_ofList he)).1⟩

theorem fetched_lid {U : List Entry} {L : Log} {F : List Entry} (hF : Fetched U L F) :
    ∀ e ∈ ofList F, e.logId = L.id := fun e he => hF.lid e (mem_of_mem_ofList he)

theorem fetched_covered {U : List Entry} (hU : HashDet U) (hM : ClockMono U) {L : Log} {F : List Entry}
    (hF : Fetched U L F) :
    CoveredBy (asLog (ofList F)) ((ofList (findHeads (ofList F))).map (·.hash)) := by
  have hI := inv_of_findHeads hU L.id F 0 hF.sub
  exact (heads_cover_inv hM hI).of_entries_eq rfl

theorem nodup_old_new {L : Log} (hnd : L.entries.Nodup) (m : OMap) (hm : m.Nodup) :
    (L.entries ++ m.filter (fun e => !has L.entries e.hash)).Nodup := by
  apply List.nodup_append.mpr
  refine ⟨hnd, hm.filter _, ?_⟩
  intro a ha b hb hab
  subst hab
  have := (List.mem_filter.mp hb).2
  simp only [Bool.not_eq_true', has_false_iff] at this
  exact this a ha rfl

theorem loadHead0_no_panic {U : List Entry} (hU : HashDet U) (hT : TieFree U) (hM : ClockMono U)
    (acl : Acl) (fetch : Nat → OMap) (amount : Int) {L : Log} (h : Nat) (hG : Good U L)
    (hF : Fetched U L (fetch h)) (hC : Closed L ∨ amount ≤ L.entries.length) :
    loadHead0 acl fetch amount L h ≠ .error .panic := by
  intro hp
  have hA := fetched_honest hF
  have hlid := fetched_lid hF
  rw [loadHead0_eq] at hp
  generalize hm : ofList (fetch h) = m at *
  split at hp
  · cases hp
  · next hj =>
    -- `Join` was asked to keep `amount`, which is less than the clamp counted, and lists fewer still
    obtain ⟨hsz, hgt⟩ := joinSize_panic hj
    obtain ⟨hsa, hlt⟩ := loadSize_pos hsz
    rw [values_length hU hT hM _ (inv_joinCore_honest hU L _ _ L.id hG.inv hA hlid) (nodup_joinCore L _ _ L.id hG.nodup),
      joinCore_eq L _ _ L.id rfl, hsa] at hgt
    have hgt : ((merge L.entries (difference m (ofList (findHeads m)) L)).length : Int) < amount :=
      Int.lt_toNat.mp hgt
    rcases hC with hC | hC
    · -- on a closed log `Join` merges every fetched entry not held: the clamp counted right
      have hcov : CoveredBy (asLog m) _ := hm ▸ fetched_covered hU hM hF
      have hsub : ∀ e ∈ L.entries ++ m.filter (fun e => !has L.entries e.hash),
          e ∈ merge L.entries (difference m (ofList (findHeads m)) L) := by
        intro e he
        rcases List.mem_append.mp he with he | he
        · exact mem_merge_of_left _ _ e he
        · -- a fetched entry not held is reached from a fetched head through entries not held
          obtain ⟨hem, hne⟩ := List.mem_filter.mp he
          obtain ⟨_, hh, d⟩ := hcov e hem
          obtain ⟨x, hx, rfl⟩ := List.mem_map.mp hh
          have hd := difference_reach hU L m _ hA hG.inv.sub hlid
            ((hC.nextClosed hU hG.inv.sub).sub hA.sub) hx hem d (by simpa using hne)
          exact mem_merge_of_right hU _ _ hG.inv.sub (fun x hx => hA.sub x (difference_item _ _ _ x hx).1) e hd
      have hlen := List.Nodup.length_le_of_subset (nodup_old_new hG.nodup m (hm ▸ ofList_nodup _)) hsub
      rw [List.length_append] at hlen
      exact absurd (Int.lt_trans hgt hlt) (Int.not_lt.mpr (Int.ofNat_le.mpr hlen))
    · exact absurd (Int.lt_of_lt_of_le hgt hC) (Int.not_lt.mpr (Int.ofNat_le.mpr
        (List.Nodup.length_le_of_subset hG.nodup fun e he =>
          mem_merge_of_left _ (difference m (ofList (findHeads m)) L) e he)))
  · cases hp

end Orbit
