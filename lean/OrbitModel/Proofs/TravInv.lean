import OrbitModel.Proofs.TravSort
/-!
# The traversal invariant and its preservation by one `step`
-/
namespace Trav
variable {α : Type} [DecidableEq α]

/-- what `traverse` needs of the entry set `S`, its `roots` (the heads) and `children` (the `next` links
present in `S`) -/
structure ShapeOn (lt : α → α → Bool) (children : α → List α) (S roots : List α) : Prop where
  ord      : StrictTotalOn lt S
  snodup   : S.Nodup
  rnodup   : roots.Nodup
  rootsIn  : ∀ r ∈ roots, r ∈ S
  kidsIn   : ∀ p ∈ S, ∀ c ∈ children p, c ∈ S ∧ lt c p = true
  covered  : ∀ x ∈ S, x ∈ roots ∨ ∃ p ∈ S, x ∈ children p
  rootFree : ∀ p ∈ S, ∀ c ∈ children p, c ∉ roots

/-- the same with a globally total order. `Entry.lt` is not one (two entries with equal time and clock id
are unordered): no log has this shape, the log theorems go through `ShapeOn`. -/
structure Shape (lt : α → α → Bool) (children : α → List α) (S roots : List α) : Prop where
  ord      : StrictTotal lt
  snodup   : S.Nodup
  rnodup   : roots.Nodup
  rootsIn  : ∀ r ∈ roots, r ∈ S
  kidsIn   : ∀ p ∈ S, ∀ c ∈ children p, c ∈ S ∧ lt c p = true
  covered  : ∀ x ∈ S, x ∈ roots ∨ ∃ p ∈ S, x ∈ children p
  rootFree : ∀ p ∈ S, ∀ c ∈ children p, c ∉ roots

theorem Shape.on {lt : α → α → Bool} {children : α → List α} {S roots : List α}
    (h : Shape lt children S roots) : ShapeOn lt children S roots :=
  ⟨h.ord.on S, h.snodup, h.rnodup, h.rootsIn, h.kidsIn, h.covered, h.rootFree⟩

/-- the loop invariant of `traverse`. `oBig`: every output is above everything not yet put out (with `odesc`: `out` is
the sorted listing of what it holds); `rootsAcc`, `kidsAcc`: nothing on the frontier is lost; `seenAcc`, `stackSeen`,
`outSeen`: apart from the roots, `seen` is the stack and the output — which is what shows that a child pushed now
is not on the stack already. -/
structure Inv (lt : α → α → Bool) (children : α → List α) (S roots : List α) (s : St α) : Prop where
  sdesc   : Desc lt s.stack
  sIn     : ∀ x ∈ s.stack, x ∈ S ∧ x ∉ s.out
  odesc   : Desc lt s.out
  oIn     : ∀ x ∈ s.out, x ∈ S
  oBig    : ∀ o ∈ s.out, ∀ x ∈ S, x ∉ s.out → lt x o = true
  rootsAcc : ∀ r ∈ roots, r ∈ s.stack ∨ r ∈ s.out
  kidsAcc : ∀ p ∈ s.out, ∀ c ∈ children p, c ∈ s.stack ∨ c ∈ s.out
  seenAcc : ∀ x ∈ s.seen, x ∈ s.stack ∨ x ∈ s.out
  stackSeen : ∀ x ∈ s.stack, x ∈ roots ∨ x ∈ s.seen
  outSeen : ∀ x ∈ s.out, x ∈ s.seen

variable {lt : α → α → Bool} {children : α → List α} {S roots : List α}

/-- climb from `x` to a parent not yet put out, until a root or a child of an output is met -/
theorem frontier (hS : ShapeOn lt children S roots) {s : St α} (hI : Inv lt children S roots s) :
    ∀ x ∈ S, x ∉ s.out → ∃ t ∈ s.stack, x = t ∨ lt x t = true := by
  refine above_induction hS.ord.irrefl hS.ord.trans S fun x hx ih hxo => ?_
  have here : x ∈ s.stack ∨ x ∈ s.out → ∃ t ∈ s.stack, x = t ∨ lt x t = true :=
    fun h => ⟨x, h.resolve_right hxo, .inl rfl⟩
  rcases hS.covered x hx with hr | ⟨p, hp, hc⟩
  · exact here (hI.rootsAcc x hr)
  · have hlt := (hS.kidsIn p hp x hc).2
    by_cases hpo : p ∈ s.out
    · exact here (hI.kidsAcc p hpo x hc)
    · obtain ⟨t, ht, hpt⟩ := ih p hp hlt hpo
      exact ⟨t, ht, .inr (hpt.elim (· ▸ hlt) (hS.ord.trans _ _ _ hlt))⟩

/-- `frontier` again: `n` and the bound on it are not used -/
theorem bounded (hS : ShapeOn lt children S roots) {s : St α} (hI : Inv lt children S roots s) :
    ∀ (n : Nat) (x : α), x ∈ S → x ∉ s.out → (S.filter (fun y => lt x y)).length ≤ n →
      ∃ t ∈ s.stack, x = t ∨ lt x t = true :=
  fun _ x hx hxo _ => frontier hS hI x hx hxo

theorem top_is_max (hS : ShapeOn lt children S roots) {s : St α} (hI : Inv lt children S roots s)
    {e : α} {rest : List α} (hst : s.stack = e :: rest) :
    ∀ x ∈ S, x ∉ s.out → x ≠ e → lt x e = true := by
  intro x hx hxo hne
  obtain ⟨t, ht, hxt⟩ := frontier hS hI x hx hxo
  have hte : t = e ∨ lt t e = true :=
    (List.mem_cons.mp (hst ▸ ht)).imp_right ((List.pairwise_cons.mp (hst ▸ hI.sdesc)).1 t)
  rcases hxt with rfl | hxt <;> rcases hte with rfl | hte
  · exact absurd rfl hne
  · exact hte
  · exact hxt
  · exact hS.ord.trans _ _ _ hxt hte

theorem step_inv (hS : ShapeOn lt children S roots) {s : St α} (hI : Inv lt children S roots s)
    {e : α} {rest : List α} (hst : s.stack = e :: rest) :
    Inv lt children S roots (step lt children s) ∧ (step lt children s).out = s.out ++ [e] := by
  obtain ⟨heS, heo⟩ := hI.sIn e (hst ▸ List.mem_cons_self)
  have hrest : ∀ x ∈ rest, x ∈ s.stack := fun x hx => hst ▸ List.mem_cons_of_mem _ hx
  obtain ⟨hrestlt, hrestd⟩ := List.pairwise_cons.mp (hst ▸ hI.sdesc)
  have henr : e ∉ rest := fun h => by simpa [hS.ord.irrefl] using hrestlt e h
  obtain ⟨new, hstep, hnd, hnew⟩ := step_cons (lt := lt) (children := children) hst
  rw [hstep, if_neg heo]
  have keep : ∀ x, x ∈ s.stack ∨ x ∈ s.out → x ∈ sortDesc lt (new ++ rest) ∨ x ∈ s.out ++ [e] := by
    intro x
    simp only [hst, mem_sortDesc, List.mem_append, List.mem_cons]
    rintro ((h | h) | h) <;> simp [h]
  have kids : ∀ c ∈ children e, c ∈ sortDesc lt (new ++ rest) ∨ c ∈ s.out ++ [e] := by
    intro c hc
    by_cases hce : c = e
    · simp [hce]
    · by_cases hcs : c ∈ s.seen
      · exact keep c (hI.seenAcc c hcs)
      · simp [mem_sortDesc, (hnew c).mpr ⟨hc, hce, hcs⟩]
  refine ⟨⟨?sdesc, ?sIn, ?odesc, ?oIn, ?oBig, ?rootsAcc, ?kidsAcc, ?seenAcc, ?stackSeen, ?outSeen⟩, rfl⟩
  case sdesc =>
    refine desc_sortDesc hS.ord _ (fun y hy => ?_) (List.nodup_append.mpr ⟨hnd, ?_, ?_⟩)
    · exact (List.mem_append.mp hy).elim (fun h => (hS.kidsIn e heS y ((hnew y).mp h).1).1)
        fun h => (hI.sIn y (hrest y h)).1
    · exact desc_nodup hS.ord.irrefl hrestd
    · -- a child of `e` found in `rest` is no root, hence was seen, hence is not new
      rintro x hx _ hr rfl
      exact ((hI.stackSeen x (hrest x hr)).elim (hS.rootFree e heS x ((hnew x).mp hx).1)
        ((hnew x).mp hx).2.2).elim
  case sIn =>
    intro x hx
    rw [mem_sortDesc, List.mem_append] at hx
    simp only [List.mem_append, List.mem_singleton, not_or]
    rcases hx with hx | hx
    · exact ⟨(hS.kidsIn e heS x ((hnew x).mp hx).1).1,
        fun h => ((hnew x).mp hx).2.2 (hI.outSeen x h), ((hnew x).mp hx).2.1⟩
    · exact ⟨(hI.sIn x (hrest x hx)).1, (hI.sIn x (hrest x hx)).2, fun h => henr (h ▸ hx)⟩
  case odesc =>
    exact List.pairwise_append.mpr ⟨hI.odesc, List.pairwise_singleton _ _,
      fun o ho _ hb => List.mem_singleton.mp hb ▸ hI.oBig o ho e heS heo⟩
  case oIn =>
    intro x hx
    exact (List.mem_append.mp hx).elim (hI.oIn x) fun h => List.mem_singleton.mp h ▸ heS
  case oBig =>
    intro o ho x hx hxo
    simp only [List.mem_append, List.mem_singleton, not_or] at ho hxo
    rcases ho with ho | rfl
    · exact hI.oBig o ho x hx hxo.1
    · exact top_is_max hS hI hst x hx hxo.1 hxo.2
  case rootsAcc => exact fun r hr => keep r (hI.rootsAcc r hr)
  case kidsAcc =>
    intro p hp c hc
    rcases List.mem_append.mp hp with hp | hp
    · exact keep c (hI.kidsAcc p hp c hc)
    · exact kids c (List.mem_singleton.mp hp ▸ hc)
  case seenAcc =>
    intro x hx
    rcases List.mem_append.mp hx with hx | hx
    · exact .inl ((mem_sortDesc ..).mpr (List.mem_append_left _ hx))
    · rcases List.mem_cons.mp hx with rfl | hx
      · simp
      · exact keep x (hI.seenAcc x hx)
  case stackSeen =>
    intro x hx
    rw [mem_sortDesc, List.mem_append] at hx
    simp only [List.mem_append, List.mem_cons]
    rcases hx with hx | hx
    · exact .inr (.inl hx)
    · exact (hI.stackSeen x (hrest x hx)).imp_right fun h => .inr (.inr h)
  case outSeen =>
    intro x hx
    refine List.mem_append_right _ ((List.mem_append.mp hx).elim (fun h => ?_) fun h => ?_)
    · exact List.mem_cons_of_mem _ (hI.outSeen x h)
    · exact List.mem_singleton.mp h ▸ List.mem_cons_self

end Trav
