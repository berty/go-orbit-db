import OrbitModel.Generated.GenSnap
import OrbitModel.Model.Snapshot
/-!
# Regenerated Go fragment = hand-written model (tie 2); one small module per fragment, so that a
change to one Go function only stops the theorems tied to it
-/
namespace Orbit

/-- the size guards of `SaveSnapshot` in the Go text of this run are the model's `encodeRec` refusal -/
theorem gen_snapRefused (r : List Nat) :
    Gen.genSnapEntryRefused r.length = (Snap.encodeRec r).isNone ∧
    Gen.genSnapHeaderRefused r.length = (Snap.encodeRec r).isNone := by
  unfold Gen.genSnapEntryRefused Gen.genSnapHeaderRefused Snap.encodeRec Snap.maxRec
  by_cases h : r.length > 65535
  · have h' : (r.length : Int) > 65535 := by omega
    simp [h, h']
  · have h' : ¬ (r.length : Int) > 65535 := by omega
    simp [h, h']

end Orbit
