import OrbitModel.Proofs.ReplEnq
/-!
# Replicator: `fetched` then `finish` is the one-step reading of a successful fetch

In the Go text a successful fetch is two critical sections (`processItems`, then `processEntryDone`) and
other workers — the ones just spawned included — can move in between: hence the two actions `fetched`
and `finish`. `fetchOkAtomic` completes the fetch in one step. When nothing moves in between, the two
steps produce exactly its state, the workers in the same order.
-/
namespace Orbit.Repl

def fetchOkAtomic (net : Nat → Info) (s : St) (i : Nat) : St :=
  match s.workers[i]? with
  | some ⟨ctx, h, .fetching⟩ =>
    if s.cancelled.contains ctx then s else
    let s := { s with workers := removeAt s.workers i }
    if (net h).foreign then done s h                     -- ignored: not buffered, links not followed
    else
      let s := { s with buffer := s.buffer ++ [h] }
      let s := (net h).links.foldl (enqueue ctx) s
      done s h
  | _ => s

theorem getElem?_mid {α : Type} (l1 l2 : List α) (a : α) : (l1 ++ a :: l2)[l1.length]? = some a := by
  simp

theorem removeAt_mid {α : Type} (l1 l2 : List α) (a : α) : removeAt (l1 ++ a :: l2) l1.length = l1 ++ l2 := by
  simp [removeAt]

theorem fetched_finish_eq_atomic (net : Nat → Info) (s : St) (i ctx h : Nat)
    (hw : s.workers[i]? = some ⟨ctx, h, .fetching⟩) (hc : s.cancelled.contains ctx = false) :
    step net (step net s (.fetched i)) (.finish i) = fetchOkAtomic net s i := by
  obtain ⟨l1, l2, _, rfl, hrm, hset⟩ := split_at hw
  simp only [fetchOkAtomic, step, hw, hc, Bool.false_eq_true, if_false, hset, hrm]
  cases hf : (net h).foreign with
  | true => simp only [if_true, getElem?_mid, removeAt_mid]
  | false =>
    -- on both sides the links queued are `freshOf s`: which they are does not depend on the workers
    simp only [Bool.false_eq_true, if_false, foldl_enqueue_eq, enqd_workers, List.append_assoc,
      List.cons_append, getElem?_mid, removeAt_mid]
    congr 1
    simp only [enqd, List.append_assoc]
    rfl

/-- the same, field by field, for a reader who does not want to trust `=` on structures -/
theorem fetched_finish_fields (net : Nat → Info) (s : St) (i ctx h : Nat)
    (hw : s.workers[i]? = some ⟨ctx, h, .fetching⟩) (hc : s.cancelled.contains ctx = false) :
    let s2 := step net (step net s (.fetched i)) (.finish i)
    let s1 := fetchOkAtomic net s i
    s2.log = s1.log ∧ s2.tasks = s1.tasks ∧ s2.queue = s1.queue ∧ s2.failed = s1.failed ∧
    s2.sem = s1.sem ∧ s2.inProgress = s1.inProgress ∧ s2.pending = s1.pending ∧
    s2.buffer = s1.buffer ∧ s2.workers = s1.workers ∧ s2.cancelled = s1.cancelled := by
  intro s2 s1
  have e : s2 = s1 := fetched_finish_eq_atomic net s i ctx h hw hc
  rw [e]
  exact ⟨rfl, rfl, rfl, rfl, rfl, rfl, rfl, rfl, rfl, rfl⟩

/-- a cancelled context blocks `fetched` as it blocks `fetchOkAtomic`, and `finish` does nothing to a
worker that is still inside its fetch -/
theorem fetched_finish_eq_atomic_cancelled (net : Nat → Info) (s : St) (i ctx h : Nat)
    (hw : s.workers[i]? = some ⟨ctx, h, .fetching⟩) (hc : s.cancelled.contains ctx = true) :
    step net (step net s (.fetched i)) (.finish i) = fetchOkAtomic net s i := by
  simp only [fetchOkAtomic, step, hw, hc, if_true]

end Orbit.Repl
