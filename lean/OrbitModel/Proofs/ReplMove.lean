import OrbitModel.Proofs.ReplEnq
/-!
# Replicator: what a step does, in explicit form

`Move net F s s'`: one worker or the store main loop moves `s` to `s'` (seven cases, the worker list
split at the moving worker). Every `step` other than `load` and `cancel` is a `Move` or changes
nothing (`step_spec`). Everything that is proved step by step — `Inv`, `StIn`, the cancelled set, the
potential — is proved by cases on `Move`, once.

The moves under their four names (action of the model; `Move` constructor; what it does to `InvS`; what it does to
the potential): `acquire` — `giveUp` / `slot` — `InvS.drop` / `InvS.promote` — `pot_lt_of_abort` / `pot_lt_of_advance`;
`fetched` — `fetchedForeign` / `fetched` — `InvS.toFin` — `pot_lt_of_advance`; `finish` — `finish` — `InvS.complete` —
`pot_lt_of_leave`; `fetchFail` — `fail` — `InvS.drop` — `pot_lt_of_abort`; `deliver` — `deliver`.
-/
namespace Orbit.Repl

/-- a waiting worker gives up, before the flush -/
def giveUpSt (s : St) (ws : List Worker) (hh : Nat) : St :=
  { delTask s hh with workers := ws, queue := s.queue.filter (· != hh), failed := hh :: s.failed }

def slotSt (s : St) (ws : List Worker) (hh : Nat) : St :=
  { setTask s hh .fetching with
    queue := s.queue.filter (· != hh), sem := s.sem - 1, inProgress := s.inProgress + 1, workers := ws }

/-- a fetch returned an entry of this log, before its links are queued -/
def bufSt (s : St) (ws : List Worker) (hh : Nat) : St :=
  { s with workers := ws, buffer := s.buffer ++ [hh] }

/-- `F ctx`: a fetch made for a request with context `ctx` may fail. (Any fetch may, `fun _ => True`;
under the deterministic scheduler only those of cancelled requests do.) -/
inductive Move (net : Nat → Info) (F : Nat → Prop) (s : St) : St → Prop
  | fail (l1 l2 : List Worker) (ctx hh : Nat) (hw : s.workers = l1 ++ ⟨ctx, hh, .fetching⟩ :: l2)
      (hc : F ctx) :
      Move net F s (failedDone { s with workers := l1 ++ l2 } hh)
  /-- a fetch returns an entry of another log: nothing is buffered or queued -/
  | fetchedForeign (l1 l2 : List Worker) (ctx hh : Nat)
      (hw : s.workers = l1 ++ ⟨ctx, hh, .fetching⟩ :: l2)
      (hc : s.cancelled.contains ctx = false) (hf : (net hh).foreign = true) :
      Move net F s { s with workers := l1 ++ ⟨ctx, hh, .finishing⟩ :: l2 }
  /-- a fetch returns an entry of this log: it is buffered and its fresh links are queued -/
  | fetched (l1 l2 : List Worker) (ctx hh : Nat) (hw : s.workers = l1 ++ ⟨ctx, hh, .fetching⟩ :: l2)
      (hc : s.cancelled.contains ctx = false) (hf : (net hh).foreign = false) :
      Move net F s (enqd (bufSt s (l1 ++ ⟨ctx, hh, .finishing⟩ :: l2) hh) ctx (freshOf s (net hh).links))
  | finish (l1 l2 : List Worker) (ctx hh : Nat) (hw : s.workers = l1 ++ ⟨ctx, hh, .finishing⟩ :: l2) :
      Move net F s (done { s with workers := l1 ++ l2 } hh)
  | giveUp (l1 l2 : List Worker) (ctx hh : Nat) (hw : s.workers = l1 ++ ⟨ctx, hh, .waitSlot⟩ :: l2)
      (hc : s.cancelled.contains ctx = true) :
      Move net F s (flush (giveUpSt s (l1 ++ l2) hh))
  | slot (l1 l2 : List Worker) (ctx hh : Nat) (hw : s.workers = l1 ++ ⟨ctx, hh, .waitSlot⟩ :: l2)
      (hc : s.cancelled.contains ctx = false) (hs : s.sem ≠ 0) :
      Move net F s (slotSt s (l1 ++ ⟨ctx, hh, .fetching⟩ :: l2) hh)
  | deliver (batch : List Nat) (rest : List (List Nat)) (hp : s.pending = batch :: rest) :
      Move net F s { s with pending := rest, log := joinBatch net s.log batch }

variable {net : Nat → Info} {F : Nat → Prop} {s s' : St} {i ctx hh : Nat}

theorem Move.of_finish (hwi : s.workers[i]? = some ⟨ctx, hh, .finishing⟩) :
    Move net F s (step net s (.finish i)) := by
  obtain ⟨l1, l2, hw, _, hrm, _⟩ := split_at hwi
  simp only [step, hwi, hrm]
  exact .finish l1 l2 ctx hh hw

theorem Move.of_fetchFail (hwi : s.workers[i]? = some ⟨ctx, hh, .fetching⟩) (hc : F ctx) :
    Move net F s (step net s (.fetchFail i)) := by
  obtain ⟨l1, l2, hw, _, hrm, _⟩ := split_at hwi
  simp only [step, hwi, hrm]
  exact .fail l1 l2 ctx hh hw hc

theorem Move.of_fetched (hwi : s.workers[i]? = some ⟨ctx, hh, .fetching⟩)
    (hc : s.cancelled.contains ctx = false) : Move net F s (step net s (.fetched i)) := by
  obtain ⟨l1, l2, hw, _, _, hset⟩ := split_at hwi
  simp only [step, hwi, hset, hc, Bool.false_eq_true, if_false]
  cases hf : (net hh).foreign with
  | true => exact .fetchedForeign l1 l2 ctx hh hw hc hf
  | false => exact foldl_enqueue_eq .. ▸ .fetched l1 l2 ctx hh hw hc hf

theorem Move.of_acquire (hwi : s.workers[i]? = some ⟨ctx, hh, .waitSlot⟩)
    (h : s.cancelled.contains ctx = true ∨ s.sem ≠ 0) : Move net F s (step net s (.acquire i)) := by
  obtain ⟨l1, l2, hw, _, hrm, hset⟩ := split_at hwi
  simp only [step, hwi, hrm]
  cases hc : s.cancelled.contains ctx with
  | true => exact .giveUp l1 l2 ctx hh hw hc
  | false =>
    have hs : s.sem ≠ 0 := h.resolve_left (by rw [hc]; exact Bool.false_ne_true)
    simp only [Bool.false_eq_true, if_false, hs]
    exact hset _ ▸ .slot l1 l2 ctx hh hw hc hs

theorem Move.of_deliver {b : List Nat} {r : List (List Nat)} (hp : s.pending = b :: r) :
    Move net F s (step net s .deliver) := by
  simp only [step, hp]; exact .deliver b r hp

theorem mem_split_of {l1 l2 : List Worker} {w w' : Worker} (h : w' ∈ l1 ++ l2) : w' ∈ l1 ++ w :: l2 :=
  List.mem_append_cons_iff.2 (.inr h)

theorem Move.cancelled_eq (m : Move net F s s') : s'.cancelled = s.cancelled := by
  cases m with
  | fail => exact failedDone_cancelled ..
  | finish => exact done_cancelled ..
  | giveUp => exact flush_cancelled _
  | _ => rfl

/-- a worker of `s'` continues a worker of `s` (same request, same item) or was spawned by one, for the
same request, for a link of the entry of this log it fetched -/
theorem Move.forall_workers (m : Move net F s s') {P : Nat → Nat → Prop}
    (h : ∀ w ∈ s.workers, P w.ctx w.item)
    (hl : ∀ w ∈ s.workers, (net w.item).foreign = false → ∀ l ∈ (net w.item).links, P w.ctx l) :
    ∀ w ∈ s'.workers, P w.ctx w.item := by
  have rest : ∀ {l1 l2 : List Worker} {w : Worker}, s.workers = l1 ++ w :: l2 →
      ∀ x ∈ l1 ++ l2, P x.ctx x.item := fun hw x hx => h x (hw ▸ mem_split_of hx)
  have relabel : ∀ {l1 l2 : List Worker} {w : Worker}, s.workers = l1 ++ w :: l2 → ∀ pc,
      ∀ x ∈ l1 ++ ⟨w.ctx, w.item, pc⟩ :: l2, P x.ctx x.item := by
    intro l1 l2 w hw pc x hx
    rcases List.mem_append_cons_iff.1 hx with rfl | hx
    · exact h w (hw ▸ List.mem_append_cons_self)
    · exact h x (hw ▸ mem_split_of hx)
  cases m with
  | fail l1 l2 ctx hh hw hc => rw [failedDone_workers]; exact rest hw
  | fetchedForeign l1 l2 ctx hh hw hc hf => exact relabel hw .finishing
  | fetched l1 l2 ctx hh hw hc hf =>
    intro x hx
    rcases List.mem_append.1 hx with hx | hx
    · exact relabel hw .finishing x hx
    · obtain ⟨k, hk, rfl⟩ := mem_spawn.1 hx
      exact hl ⟨ctx, hh, .fetching⟩ (hw ▸ List.mem_append_cons_self) hf k
        (mem_freshOf.1 hk).1
  | finish l1 l2 ctx hh hw => rw [done_workers]; exact rest hw
  | giveUp l1 l2 ctx hh hw hc => rw [flush_workers]; exact rest hw
  | slot l1 l2 ctx hh hw hc hs => exact relabel hw .fetching
  | deliver batch rest hp => exact h

theorem Move.failed_eq (m : Move net F s s') : s'.failed = s.failed ∨ ∃ w ∈ s.workers,
    (F w.ctx ∨ s.cancelled.contains w.ctx = true) ∧ s'.failed = w.item :: s.failed := by
  cases m with
  | fail l1 l2 ctx hh hw hc =>
    exact .inr ⟨_, hw ▸ List.mem_append_cons_self, .inl hc, failedDone_failed _ _⟩
  | giveUp l1 l2 ctx hh hw hc =>
    exact .inr ⟨_, hw ▸ List.mem_append_cons_self, .inr hc, flush_failed _⟩
  | finish l1 l2 ctx hh hw => exact .inl (done_failed _ _)
  | _ => exact .inl rfl

theorem step_load (net : Nat → Info) (s : St) (ctx : Nat) (hs : List Nat) :
    step net s (.load ctx hs) = enqd { s with failed := [] } ctx (freshOf s (s.failed ++ hs)) :=
  foldl_enqueue_eq ctx (s.failed ++ hs) { s with failed := [] }

theorem step_spec (net : Nat → Info) (s : St) (a : Act) :
    step net s a = s ∨ Move net (fun _ => True) s (step net s a) ∨
      (∃ ctx hs, a = .load ctx hs) ∨ ∃ ctx, a = .cancel ctx := by
  cases a with
  | load ctx hs => exact .inr (.inr (.inl ⟨_, _, rfl⟩))
  | cancel ctx => exact .inr (.inr (.inr ⟨_, rfl⟩))
  | deliver =>
    cases hp : s.pending with
    | nil => left; simp only [step, hp]
    | cons b r => exact .inr (.inl (.of_deliver hp))
  | acquire i =>
    cases hwi : s.workers[i]? with
    | none => left; simp only [step, hwi]
    | some w =>
      obtain ⟨ctx, hh, pc⟩ := w
      cases pc with
      | waitSlot =>
        by_cases h : s.cancelled.contains ctx = true ∨ s.sem ≠ 0
        · exact .inr (.inl (.of_acquire hwi h))
        · left
          simp only [not_or, Bool.not_eq_true, Decidable.not_not] at h
          simp only [step, hwi, h]
          rfl
      | _ => left; simp only [step, hwi]
  | fetched i =>
    cases hwi : s.workers[i]? with
    | none => left; simp only [step, hwi]
    | some w =>
      obtain ⟨ctx, hh, pc⟩ := w
      cases pc with
      | fetching =>
        cases hc : s.cancelled.contains ctx with
        | true => left; simp only [step, hwi, hc, if_true]
        | false => exact .inr (.inl (.of_fetched hwi hc))
      | _ => left; simp only [step, hwi]
  | finish i =>
    cases hwi : s.workers[i]? with
    | none => left; simp only [step, hwi]
    | some w =>
      obtain ⟨ctx, hh, pc⟩ := w
      cases pc with
      | finishing => exact .inr (.inl (.of_finish hwi))
      | _ => left; simp only [step, hwi]
  | fetchFail i =>
    cases hwi : s.workers[i]? with
    | none => left; simp only [step, hwi]
    | some w =>
      obtain ⟨ctx, hh, pc⟩ := w
      cases pc with
      | fetching => exact .inr (.inl (.of_fetchFail hwi trivial))
      | _ => left; simp only [step, hwi]

end Orbit.Repl
