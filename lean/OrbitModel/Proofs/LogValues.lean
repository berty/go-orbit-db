import OrbitModel.Proofs.LogAppend
import OrbitModel.Proofs.Trav
/-!
# `Values()` lists exactly the entries, strictly ascending in the log order; it is a function of
the entry *set*.
-/
namespace Orbit

theorem mem_children {L : Log} {p c : Entry} (h : c ∈ children L p) :
    c ∈ L.entries ∧ c.hash ∈ p.next := by
  unfold children at h
  obtain ⟨n, hn, hg⟩ := List.mem_filterMap.mp h
  obtain ⟨h1, h2⟩ := get_some hg
  exact ⟨h1, h2 ▸ hn⟩

theorem shape_of_inv {U : List Entry} (hU : HashDet U) (hT : TieFree U) (hM : ClockMono U) (L : Log)
    (hI : Inv U L) (hnd : L.entries.Nodup) :
    Trav.ShapeOn Entry.lt (children L) L.entries L.heads where
  ord := strictTotalOn_lt hT L.entries hI.sub
  snodup := hnd
  rnodup := hI.hnodup
  rootsIn := hI.heads_sub
  kidsIn := by
    intro p hp c hc
    obtain ⟨h1, h2⟩ := mem_children hc
    exact ⟨h1, hM p (hI.sub p hp) c (hI.sub c h1) h2⟩
  covered := by
    intro x hx
    by_cases hr : x.hash ∈ nexts L.entries
    · right
      obtain ⟨p, hp, hn⟩ := (mem_nexts _ _).mp hr
      refine ⟨p, hp, ?_⟩
      unfold children
      exact List.mem_filterMap.mpr ⟨x.hash, hn, get_of_mem hU hI.sub hx⟩
    · exact Or.inl ((hI.heads x).mpr ⟨hx, hr⟩)
  rootFree := by
    intro p hp c hc hroot
    obtain ⟨_, h2⟩ := mem_children hc
    exact ((hI.heads c).mp hroot).2 ((mem_nexts _ _).mpr ⟨p, hp, h2⟩)

theorem traverseN_sorted {U : List Entry} (hU : HashDet U) (hT : TieFree U) (hM : ClockMono U) (L : Log)
    (hI : Inv U L) (hnd : L.entries.Nodup) (n : Nat) (hn : L.entries.length ≤ n) :
    Trav.Desc Entry.lt (traverseN L n) ∧ ∀ x, x ∈ traverseN L n ↔ x ∈ L.entries :=
  Trav.traverse_sorted_on (shape_of_inv hU hT hM L hI hnd) n hn

theorem values_sorted {U : List Entry} (hU : HashDet U) (hT : TieFree U) (hM : ClockMono U) (L : Log)
    (hI : Inv U L) (hnd : L.entries.Nodup) :
    (values L).Pairwise (fun a b => Entry.lt a b = true) ∧ ∀ x, x ∈ values L ↔ x ∈ L.entries :=
  have ⟨hd, hm⟩ := traverseN_sorted hU hT hM L hI hnd (travFuel L) (Nat.le_add_left _ _)
  ⟨List.pairwise_reverse.mpr hd, fun x => List.mem_reverse.trans (hm x)⟩

theorem values_eq_of_sorted {U : List Entry} (hU : HashDet U) (hT : TieFree U) (hM : ClockMono U)
    {L : Log} (hI : Inv U L) (hnd : L.entries.Nodup) {K : List Entry}
    (hK : K.Pairwise (fun a b => Entry.lt a b = true)) (hm : ∀ x, x ∈ L.entries ↔ x ∈ K) :
    values L = K :=
  have ⟨s, m⟩ := values_sorted hU hT hM L hI hnd
  Trav.eq_of_sorted Entry.not_lt_self Entry.lt_trans s hK fun x => (m x).trans (hm x)

theorem values_unique {U : List Entry} (hU : HashDet U) (hT : TieFree U) (hM : ClockMono U)
    (L1 L2 : Log) (hI1 : Inv U L1) (hnd1 : L1.entries.Nodup) (hI2 : Inv U L2) (hnd2 : L2.entries.Nodup)
    (h : ∀ x, x ∈ L1.entries ↔ x ∈ L2.entries) : values L1 = values L2 :=
  have ⟨s2, m2⟩ := values_sorted hU hT hM L2 hI2 hnd2
  values_eq_of_sorted hU hT hM hI1 hnd1 s2 fun x => (h x).trans (m2 x).symm

theorem values_sublist {U : List Entry} (hU : HashDet U) (hT : TieFree U) (hM : ClockMono U)
    (L1 L2 : Log) (hI1 : Inv U L1) (hnd1 : L1.entries.Nodup) (hI2 : Inv U L2) (hnd2 : L2.entries.Nodup)
    (hsub : ∀ x ∈ L1.entries, x ∈ L2.entries) : (values L1).Sublist (values L2) :=
  have ⟨s1, m1⟩ := values_sorted hU hT hM L1 hI1 hnd1
  have ⟨s2, m2⟩ := values_sorted hU hT hM L2 hI2 hnd2
  Trav.sublist_of_sorted Entry.not_lt_self Entry.lt_trans s1 s2 fun x hx =>
    (m2 x).mpr (hsub x ((m1 x).mp hx))

theorem heads_same {U : List Entry} {L1 L2 : Log} (hI1 : Inv U L1) (hI2 : Inv U L2)
    (h : ∀ x, x ∈ L1.entries ↔ x ∈ L2.entries) : ∀ x, x ∈ L1.heads ↔ x ∈ L2.heads := by
  have hn : ∀ n, n ∈ nexts L1.entries ↔ n ∈ nexts L2.entries := fun n => by
    simp only [mem_nexts, h]
  intro x
  rw [hI1.heads, hI2.heads, h x, hn x.hash]

theorem sortedHeads_desc {U : List Entry} (hT : TieFree U) {L : Log} (hI : Inv U L) :
    Trav.Desc Entry.lt (sortedHeads L) :=
  Trav.desc_sortDesc (strictTotalOn_lt hT L.heads (fun e he => hI.sub e (hI.heads_sub e he)))
    L.heads (fun _ h => h) hI.hnodup

theorem sortedHeads_unique {U : List Entry} (hT : TieFree U)
    (L1 L2 : Log) (hI1 : Inv U L1) (hI2 : Inv U L2)
    (h : ∀ x, x ∈ L1.entries ↔ x ∈ L2.entries) : sortedHeads L1 = sortedHeads L2 := by
  apply Trav.eq_of_sorted Entry.not_lt_self (fun a b c hab hbc => Entry.lt_trans c b a hbc hab)
    (sortedHeads_desc hT hI1) (sortedHeads_desc hT hI2)
  intro x
  rw [mem_sortedHeads, mem_sortedHeads]
  exact heads_same hI1 hI2 h x

theorem values_congr {L1 L2 : Log} (he : L1.entries = L2.entries) (hh : L1.heads = L2.heads) :
    values L1 = values L2 := by
  unfold values traverseN travFuel children
  rw [he, hh]

theorem values_bumpClock (L : Log) : values (bumpClock L) = values L := rfl

theorem values_length {U : List Entry} (hU : HashDet U) (hT : TieFree U) (hM : ClockMono U) (L : Log)
    (hI : Inv U L) (hnd : L.entries.Nodup) : (values L).length = L.entries.length := by
  obtain ⟨hs, hm⟩ := values_sorted hU hT hM L hI hnd
  exact ((List.perm_ext_iff_of_nodup (Trav.nodup_of_sorted Entry.not_lt_self hs) hnd).mpr hm).length_eq

end Orbit
