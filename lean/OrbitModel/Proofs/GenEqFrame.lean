import OrbitModel.Generated.GenFrame
import OrbitModel.Model.Codec
/-!
# Regenerated Go fragment = hand-written model (tie 2); one small module per fragment, so that a
change to one Go function only stops the theorems tied to it
-/
namespace Orbit

/-- the size check regenerated from `directchannel.handleNewPeer` is the model's guard -/
theorem gen_frameRefused (len64 : BitVec 64) :
    Gen.genFrameRefused len64 = (Codec.frameGuard len64 == .refused) := by
  have hmax : Gen.delimitedReadMaxSize = Codec.maxFrame := by decide
  unfold Gen.genFrameRefused Codec.frameGuard
  rw [hmax]
  by_cases h : (len64.toNat : Int) > Codec.maxFrame
  · rw [if_pos h]; simp [h]
  · rw [if_neg h]; simp [h]

end Orbit
