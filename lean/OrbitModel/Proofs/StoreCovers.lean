import OrbitModel.Proofs.Covers
import OrbitModel.Proofs.JoinAll
/-!
# The cached heads of a store cover its log   (C05)

`StoreCovers s`: every entry of the log is reachable from `_localHeads ++ _remoteHeads`.
Preserved by `AddOperation` (allowed or denied); established by every `replicationLoadComplete`,
whichever logs of the batch are rejected (a rejected log is skipped, `_remoteHeads` is always
rewritten). In the pinned tree an aborted `replicationLoadComplete` broke it: the joins done before
the failing one stayed in the log, the cache was not rewritten.
Neither operation forgets a cached head the log does not hold (F33, F26), so what the cache reaches in
the universe (`ReachU`) never shrinks, for every store state whose log is `Good` — in particular a store that was opened
with a limit and holds only part of what its cache points to (unless that load had to trim the log).
-/
namespace Orbit

def Store.cachedHeads (s : Store) : List Nat := (s.localHeads.getD []) ++ (s.remoteHeads.getD [])

def StoreCovers (s : Store) : Prop := CoveredBy s.log s.cachedHeads

theorem keptHeads_or_held (cached : Option (List Nat)) (L : Log) {h : Nat} (hh : h ∈ cached.getD []) :
    h ∈ keptHeads cached L ∨ has L.entries h = true := by
  cases hl : has L.entries h
  · exact Or.inl (List.mem_filter.mpr ⟨hh, by rw [hl]; rfl⟩)
  · exact Or.inr rfl

theorem keptHeads_eq_nil {cached : Option (List Nat)} {L : Log}
    (h : ∀ x ∈ cached.getD [], has L.entries x = true) : keptHeads cached L = [] :=
  List.filter_eq_nil_iff.mpr fun x hx => by simp [h x hx]

/-- `addOp0` is `AddOperation` before the `fix:` commit of F33, `addOp` after it. Refused by the access
controller, both move only the clock of the log. -/
theorem addOp_denied {acl : Acl} {s : Store} {mk : Nat → List Nat → Entry}
    (hc : acl.canAppend (mk (appendTime s.log) (appendNext s.log)) = false) :
    s.addOp0 acl mk = ({ s with log := (append acl.canAppend s.log mk).1 }, .error .denied) ∧
    s.addOp acl mk = s.addOp0 acl mk := by
  simp only [Store.addOp, Store.addOp0, append, hc, Bool.false_eq_true, if_false, and_self]

theorem addOp_ok {acl : Acl} {s : Store} {mk : Nat → List Nat → Entry}
    (hc : acl.canAppend (mk (appendTime s.log) (appendNext s.log)) = true) :
    s.addOp0 acl mk =
      ({ s with log := (append acl.canAppend s.log mk).1,
                status := recalcStatus (append acl.canAppend s.log mk).1.entries.length s.status
                  (mk (appendTime s.log) (appendNext s.log)).time,
                localHeads := some [(mk (appendTime s.log) (appendNext s.log)).hash],
                idx := updateIndex s.kind s.idx (append acl.canAppend s.log mk).1 },
        .ok (mk (appendTime s.log) (appendNext s.log))) ∧
    s.addOp acl mk =
      ({ (s.addOp0 acl mk).1 with
          localHeads := some ((mk (appendTime s.log) (appendNext s.log)).hash :: keptHeads s.localHeads s.log) },
        .ok (mk (appendTime s.log) (appendNext s.log))) := by
  simp only [Store.addOp, Store.addOp0, append, hc, if_true, and_self]

theorem addOp_log (acl : Acl) (s : Store) (mk : Nat → List Nat → Entry) :
    (s.addOp acl mk).1.log = (append acl.canAppend s.log mk).1 := by
  cases hc : acl.canAppend (mk (appendTime s.log) (appendNext s.log))
  · rw [(addOp_denied hc).2, (addOp_denied hc).1]
  · rw [(addOp_ok hc).2, (addOp_ok hc).1]

theorem addOp_snd (acl : Acl) (s : Store) (mk : Nat → List Nat → Entry) :
    (s.addOp acl mk).2 = (append acl.canAppend s.log mk).2 := by
  cases hc : acl.canAppend (mk (appendTime s.log) (appendNext s.log))
  · rw [(addOp_denied hc).2, (addOp_denied hc).1]; simp only [append, hc]; rfl
  · rw [(addOp_ok hc).2]; simp only [append, hc]; rfl

theorem addOp_remoteHeads (acl : Acl) (s : Store) (mk : Nat → List Nat → Entry) :
    (s.addOp acl mk).1.remoteHeads = s.remoteHeads := by
  cases hc : acl.canAppend (mk (appendTime s.log) (appendNext s.log))
  · rw [(addOp_denied hc).2, (addOp_denied hc).1]
  · rw [(addOp_ok hc).2, (addOp_ok hc).1]

theorem addOp_localHeads (acl : Acl) (s : Store) (mk : Nat → List Nat → Entry) :
    (s.addOp acl mk).1.localHeads =
      if acl.canAppend (mk (appendTime s.log) (appendNext s.log)) then
        some ((mk (appendTime s.log) (appendNext s.log)).hash :: keptHeads s.localHeads s.log)
      else s.localHeads := by
  cases hc : acl.canAppend (mk (appendTime s.log) (appendNext s.log))
  · rw [(addOp_denied hc).2, (addOp_denied hc).1]; rfl
  · rw [(addOp_ok hc).2]; rfl

theorem addOp_good {acl : Acl} {U : List Entry} (hU : HashDet U) (hM : ClockMono U) {s : Store}
    {mk : Nat → List Nat → Entry} (hG : Good U s.log) (hw : WriteOk acl U s.log mk) :
    Good U (s.addOp acl mk).1.log := by
  rw [addOp_log]; exact good_step hU hM hG (writeOk_step hw)

/-- no `StoreCovers s` needed: the new entry, first of the new `_localHeads`, names every head of the log -/
theorem addOp_ok_covers {acl : Acl} {U : List Entry} (hM : ClockMono U) {s : Store}
    {mk : Nat → List Nat → Entry} (hG : Good U s.log) (hw : WriteOk acl U s.log mk)
    (hcan : acl.canAppend (mk (appendTime s.log) (appendNext s.log)) = true) :
    StoreCovers (s.addOp acl mk).1 := by
  unfold StoreCovers Store.cachedHeads
  rw [addOp_log, addOp_localHeads, addOp_remoteHeads, if_pos hcan]
  obtain ⟨_, h2, _, h4⟩ := hw hcan
  exact (append_covers hM acl.canAppend s.log mk hG.inv h2 h4 hcan).mono_heads
    (fun x hx => List.mem_append_left _ (List.mem_singleton.mp hx ▸ List.mem_cons_self))

theorem addOp_covers {acl : Acl} {U : List Entry} (hM : ClockMono U) {s : Store}
    {mk : Nat → List Nat → Entry} (hG : Good U s.log) (hw : WriteOk acl U s.log mk)
    (hc : StoreCovers s) : StoreCovers (s.addOp acl mk).1 := by
  cases hcan : acl.canAppend (mk (appendTime s.log) (appendNext s.log))
  · rw [(addOp_denied hcan).2, (addOp_denied hcan).1]
    exact hc.of_entries_eq (by rw [append_denied hcan])
  · exact addOp_ok_covers hM hG hw hcan

/-- every cached local head is still cached after a write, or held (what the `fix:` commit of F33 established) -/
theorem addOp_keeps_cached (acl : Acl) (s : Store) (mk : Nat → List Nat → Entry) :
    ∀ h ∈ s.localHeads.getD [], h ∈ (s.addOp acl mk).1.localHeads.getD [] ∨
      has (s.addOp acl mk).1.log.entries h = true := by
  intro h hh
  rw [addOp_localHeads, addOp_log]
  split
  · exact (keptHeads_or_held s.localHeads s.log hh).imp (List.mem_cons_of_mem _)
      (has_mono fun y hy => (append_entries _ _ _ y).mpr (.inl hy))
  · exact Or.inl hh

/-- on a store whose log holds its cached local heads (any store that loaded without a limit, any
store that has only written since) the `fix:` commit of F33 changes nothing: `_localHeads = [e]` -/
theorem addOp_eq_addOp0 (acl : Acl) (s : Store) (mk : Nat → List Nat → Entry)
    (h : ∀ x ∈ s.localHeads.getD [], has s.log.entries x = true) :
    s.addOp acl mk = s.addOp0 acl mk := by
  cases hc : acl.canAppend (mk (appendTime s.log) (appendNext s.log))
  · exact (addOp_denied hc).2
  · rw [(addOp_ok hc).2, keptHeads_eq_nil h, (addOp_ok hc).1]

theorem loadEnd_log (acl : Acl) (s : Store) (logs : List (OMap × OMap)) :
    (s.loadEnd acl logs).log = joinAll acl s.log logs := rfl

theorem loadEnd_heads (acl : Acl) (s : Store) (logs : List (OMap × OMap)) :
    (s.loadEnd acl logs).localHeads = s.localHeads ∧
    (s.loadEnd acl logs).remoteHeads = some ((sortedHeads (s.loadEnd acl logs).log).map (·.hash) ++
      keptHeads s.remoteHeads (s.loadEnd acl logs).log) :=
  ⟨rfl, rfl⟩

/-- every cached remote head is still cached after a replication round, or held (what the `fix:` commit of F26
established; `loadEnd0` wrote only the heads of the merged log) -/
theorem loadEnd_keeps_cached (acl : Acl) (s : Store) (logs : List (OMap × OMap)) :
    ∀ h ∈ s.remoteHeads.getD [], h ∈ (s.loadEnd acl logs).remoteHeads.getD [] ∨
      has (s.loadEnd acl logs).log.entries h = true := by
  intro h hh
  rw [(loadEnd_heads acl s logs).2]
  exact (keptHeads_or_held s.remoteHeads _ hh).imp_left (List.mem_append_right _)

/-- on a store whose log holds everything its cache points to (any store that loaded without a
limit) the `fix:` commit of F26 changes nothing: the heads written are the heads of the merged log -/
theorem loadEnd_eq_loadEnd0 (acl : Acl) (s : Store) (logs : List (OMap × OMap))
    (h : ∀ x ∈ s.remoteHeads.getD [], has s.log.entries x = true) :
    s.loadEnd acl logs = s.loadEnd0 acl logs := by
  have hk : keptHeads s.remoteHeads (s.loadEnd0 acl logs).log = [] :=
    keptHeads_eq_nil fun x hx => has_mono (joinAll_extends acl logs s.log).mono (h x hx)
  rw [Store.loadEnd, hk, List.append_nil]
  rfl

theorem loadEnd_good {acl : Acl} {U : List Entry} (hU : HashDet U) (hM : ClockMono U) {s : Store}
    {logs : List (OMap × OMap)} (hG : Good U s.log) (hB : BatchHonest U s.log.id logs) :
    Good U (s.loadEnd acl logs).log :=
  joinAll_good hU hM hG hB

/-- No assumption on the cache before, none on the outcome of the joins: the new `_remoteHeads` contain
all the heads of the merged log. -/
theorem loadEnd_covers {acl : Acl} {U : List Entry} (hU : HashDet U) (hM : ClockMono U) {s : Store}
    {logs : List (OMap × OMap)} (hG : Good U s.log) (hB : BatchHonest U s.log.id logs) :
    StoreCovers (s.loadEnd acl logs) := by
  unfold StoreCovers Store.cachedHeads
  rw [(loadEnd_heads acl s logs).2]
  simp only [Option.getD_some]
  exact (sortedHeads_cover hM (loadEnd_good hU hM hG hB).inv).mono_heads
    (fun x hx => List.mem_append_right _ (List.mem_append_left _ hx))

/-- what `Load(-1)` rebuilds from the cached heads `hs`, all blocks being retrievable -/
inductive ReachU (U : List Entry) (hs : List Nat) : Nat → Prop
  | root {h : Nat} (hh : h ∈ hs) : ReachU U hs h
  | step {p : Entry} {n : Nat} (hp : ReachU U hs p.hash) (hU : p ∈ U) (hn : n ∈ p.next) : ReachU U hs n

theorem ReachU.nextClosed (U : List Entry) (hs : List Nat) : NextClosed U (ReachU U hs) :=
  fun _ hp hh _ hn => .step hh hp hn

theorem ReachU.closed {U : List Entry} {S : Nat → Prop} (hS : NextClosed U S) {hs : List Nat}
    (h0 : ∀ r ∈ hs, S r) {x : Nat} (d : ReachU U hs x) : S x := by
  induction d with
  | root hh => exact h0 _ hh
  | step _ hp hn ih => exact hS _ hp ih _ hn

theorem ReachU.mono_of_covers {U : List Entry} {L : Log} (hsub : ∀ e ∈ L.entries, e ∈ U) {hs hs' : List Nat}
    (hcov : CoveredBy L hs') (hk : ∀ r ∈ hs, r ∈ hs' ∨ has L.entries r = true) {x : Nat}
    (d : ReachU U hs x) : ReachU U hs' x := by
  refine d.closed (ReachU.nextClosed U hs') (fun r hr => ?_)
  rcases hk r hr with h | h
  · exact .root h
  · obtain ⟨y, hy, rfl⟩ := (has_iff _ _).mp h
    obtain ⟨a, ha, d⟩ := hcov y hy
    exact d.closed (ReachU.nextClosed U hs') hsub (.root ha)

end Orbit
