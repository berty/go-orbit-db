import OrbitModel.Proofs.Crash
import OrbitModel.Proofs.JoinClosed
import OrbitModel.Proofs.JoinSingle
/-!
# Corollaries of `crash_recovers`   (C05)

The result-level hypotheses of `ValidHist.merged` (`BatchOk.parents`, "all reported entries are in the log")
follow from conditions on the *input* of `replicationLoadComplete`: each log brings its parents and its heads
cover it; or, for the batches of the current replicator (one log per fetched entry), the batch is parent-closed
among acceptable entries. And `Values()` of the recovered log is `Values()` of the pre-crash log restricted to
the recovered hashes.
-/
namespace Orbit

theorem ValidHist.merged_of_input {acl : Acl} {U : List Entry} (hU : HashDet U) (hM : ClockMono U)
    {id : Nat} {ops : List SOp} {L : Log} (logs : List (OMap × OMap)) (hv : ValidHist acl U id ops L)
    (hB : BatchHonest U L.id logs) (hF : ∀ p ∈ logs, ∀ e ∈ p.1, Eff.block e.hash ∈ trace ops)
    (hP : BatchParents L logs) (hcov : BatchCovered logs) :
    ValidHist acl U id
      (ops ++ [.merged (joinedEntries acl L logs) ((sortedHeads (joinAll acl L logs)).map (·.hash))])
      (joinAll acl L logs) := by
  have hI := hv.histInv hU hM
  obtain ⟨hC, hall⟩ := joinAll_closed (acl := acl) hU hM logs L hI.good hI.closed hB hP
  exact ValidHist.merged logs _ hv ⟨hB, hF, fun _ _ e _ he n hn => hC e he n hn⟩ rfl (hall hcov)

theorem ValidHist.merged_of_singles {acl : Acl} {U : List Entry} (hU : HashDet U) (hM : ClockMono U)
    {id : Nat} {ops : List SOp} {L : Log} (logs : List (OMap × OMap)) (hv : ValidHist acl U id ops L)
    (hB : BatchHonest U L.id logs) (hF : ∀ p ∈ logs, ∀ e ∈ p.1, Eff.block e.hash ∈ trace ops)
    (hS : Singles logs) (hP : BatchParentsAcc acl L logs) :
    ValidHist acl U id
      (ops ++ [.merged (joinedEntries acl L logs) ((sortedHeads (joinAll acl L logs)).map (·.hash))])
      (joinAll acl L logs) := by
  have hI := hv.histInv hU hM
  have hC := joinAll_singles_closed hU hM hI.good hI.closed hB hS hP
  exact ValidHist.merged logs _ hv ⟨hB, hF, fun _ _ e _ he n hn => hC e he n hn⟩ rfl
    (joinedEntries_singles hU hM logs L hI.good hB hS)

theorem values_restrict {U : List Entry} (hU : HashDet U) (hT : TieFree U) (hM : ClockMono U)
    {D L : Log} (hD : Good U D) (hL : Good U L) (hsub : ∀ e ∈ D.entries, e ∈ L.entries) :
    values D = (values L).filter (fun e => has D.entries e.hash) := by
  obtain ⟨s1, m1⟩ := values_sorted hU hT hM D hD.inv hD.nodup
  obtain ⟨s2, m2⟩ := values_sorted hU hT hM L hL.inv hL.nodup
  apply Trav.eq_of_sorted Entry.not_lt_self Entry.lt_trans s1 (s2.filter _)
  intro x
  rw [m1, List.mem_filter, m2]
  constructor
  · exact fun hx => ⟨hsub x hx, has_of_mem hx⟩
  · exact fun ⟨hx, hh⟩ => mem_of_has hU hD.inv.sub (hL.inv.sub x hx) hh

/-- **C05** in one statement: clauses (i)–(iv) of `crash_recovers` (less `Closed D` and the `blocks` half of
(ii)), with the `Values()` clause added to (iv). -/
theorem acknowledged_survive_any_crash {acl : Acl} {U : List Entry} (hU : HashDet U)
    (hT : TieFree U) (hM : ClockMono U) {id : Nat} {ops : List SOp} {L : Log}
    (hvalid : ValidHist acl U id ops L) (p : List Eff) (hp : p <+: trace ops) :
    (∀ h, Eff.ack h ∈ p → h ∈ recover U (diskOf p)) ∧
    (∀ hs, Eff.replicated hs ∈ p → ∀ h ∈ hs, h ∈ recover U (diskOf p)) ∧
    (∀ h ∈ recover U (diskOf p), Eff.block h ∈ p) ∧
    (∀ h ∈ recover U (diskOf p), ∀ e ∈ U, e.hash = h → ∀ n ∈ e.next, n ∈ recover U (diskOf p)) ∧
    (∃ D, Good U D ∧ (∀ e ∈ D.entries, e ∈ L.entries) ∧
      (∀ h, h ∈ recover U (diskOf p) ↔ has D.entries h = true) ∧
      values D = (values L).filter (fun e => (recover U (diskOf p)).contains e.hash)) := by
  obtain ⟨h1, h2, h3, h4, D, hG, _, hDL, hR⟩ := crash_recovers hU hM hvalid p hp
  refine ⟨h1, h2, fun h hh => (h3 h hh).2, h4, D, hG, hDL, hR, ?_⟩
  rw [values_restrict hU hT hM hG (hvalid.histInv hU hM).good hDL]
  exact List.filter_congr fun x _ => by rw [Bool.eq_iff_iff, List.contains_iff_mem, hR]

/-- **C05, last clause.** By `values_unique`, every good log with that entry set lists them identically.
That `Store.load` rebuilds such a log from this disk is the modelling assumption behind `recover`: no
theorem relates the two. -/
theorem crash_recovers_values {acl : Acl} {U : List Entry} (hU : HashDet U) (hT : TieFree U)
    (hM : ClockMono U) {id : Nat} {ops : List SOp} {L : Log} (hvalid : ValidHist acl U id ops L)
    (p : List Eff) (hp : p <+: trace ops) :
    ∃ D, Good U D ∧ (∀ h, h ∈ recover U (diskOf p) ↔ has D.entries h = true) ∧
      values D = (values L).filter (fun e => (recover U (diskOf p)).contains e.hash) := by
  obtain ⟨_, _, _, _, D, hG, _, hR, hV⟩ := acknowledged_survive_any_crash hU hT hM hvalid p hp
  exact ⟨D, hG, hR, hV⟩

end Orbit
