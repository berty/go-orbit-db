import OrbitModel.Proofs.TravInv
/-!
# `traverse` lists exactly the entry set, strictly descending
-/
namespace Trav
variable {α : Type} [DecidableEq α]
variable {lt : α → α → Bool} {children : α → List α} {S roots : List α}

theorem init_inv (hS : ShapeOn lt children S roots) :
    Inv lt children S roots { stack := sortDesc lt roots, seen := [], out := [] } where
  sdesc := desc_sortDesc hS.ord _ hS.rootsIn hS.rnodup
  sIn x hx := ⟨hS.rootsIn x ((mem_sortDesc ..).mp hx), List.not_mem_nil⟩
  odesc := .nil
  oIn := List.forall_mem_nil _
  oBig := List.forall_mem_nil _
  rootsAcc _ hr := .inl ((mem_sortDesc ..).mpr hr)
  kidsAcc := List.forall_mem_nil _
  seenAcc := List.forall_mem_nil _
  stackSeen _ hx := .inl ((mem_sortDesc ..).mp hx)
  outSeen := List.forall_mem_nil _

theorem run_inv (hS : ShapeOn lt children S roots) {s : St α} (hI : Inv lt children S roots s)
    (n : Nat) : Inv lt children S roots (run lt children n s) ∧
    ((run lt children n s).stack = [] ∨ (run lt children n s).out.length = s.out.length + n) := by
  refine run_induction (I := fun k t => Inv lt children S roots t ∧
    (t.stack = [] ∨ t.out.length = s.out.length + k)) ⟨hI, .inr rfl⟩ (fun k t ⟨hI, hk⟩ => ?_) n
  cases hst : t.stack with
  | nil => rw [step_nil hst]; exact ⟨hI, .inl hst⟩
  | cons e rest =>
    obtain ⟨hI', hout⟩ := step_inv hS hI hst
    exact ⟨hI', .inr (by rw [hout, List.length_append, hk.resolve_left (hst ▸ List.cons_ne_nil _ _)]; rfl)⟩

theorem traverse_sorted_on (hS : ShapeOn lt children S roots) (fuel : Nat) (hf : S.length ≤ fuel) :
    Desc lt (traverse lt children roots fuel) ∧ ∀ x, x ∈ traverse lt children roots fuel ↔ x ∈ S := by
  unfold traverse
  obtain ⟨hI, hlen⟩ := run_inv hS (init_inv hS) fuel
  generalize run lt children fuel { stack := sortDesc lt roots, seen := [], out := [] } = s at hI hlen
  refine ⟨hI.odesc, fun x => ⟨hI.oIn x, fun hx => Classical.byContradiction fun hxo => ?_⟩⟩
  -- a member not put out lies below some `t` still stacked: then `fuel` elements were put out, and
  -- with `t` they are `fuel + 1` distinct members of `S`
  obtain ⟨t, ht, _⟩ := frontier hS hI x hx hxo
  have hout := hlen.resolve_left (List.ne_nil_of_mem ht)
  have hnd : (t :: s.out).Nodup :=
    List.nodup_cons.mpr ⟨(hI.sIn t ht).2, desc_nodup hS.ord.irrefl hI.odesc⟩
  have := hnd.length_le_of_subset (l₂ := S) fun y hy =>
    (List.mem_cons.mp hy).elim (· ▸ (hI.sIn t ht).1) (hI.oIn y)
  simp only [List.length_cons, List.length_nil] at this hout
  omega

/-- The traversal theorem for a globally total order. `Entry.lt` is not one, so this is never the case
of a log: `values_sorted` rests on `traverse_sorted_on`. -/
theorem traverse_sorted (hS : Shape lt children S roots) (fuel : Nat) (hf : S.length ≤ fuel) :
    Desc lt (traverse lt children roots fuel) ∧ ∀ x, x ∈ traverse lt children roots fuel ↔ x ∈ S :=
  traverse_sorted_on hS.on fuel hf

end Trav
