import OrbitModel.Proofs.ReplHist
import OrbitModel.Proofs.ReplExamples
/-!
# Replicator: a universe for `Ex.net0`, on which `Properties/C10` and `Properties/C11` instantiate their theorems
-/
namespace Orbit.Repl.Ex

def U0 : List Nat := [1, 2, 3, 4, 8, 9]

theorem closed_U0 : Closed net0 U0 := by unfold Closed; decide

theorem reachV_3 : ReachV net0 [9, 3, 8] 1 :=
  .link (h := 2) (.link (h := 3) (.head (by decide) rfl rfl) (by decide) rfl rfl) (by decide) rfl rfl

end Orbit.Repl.Ex
