import OrbitModel.Model.Replicator
/-!
# Replicator: non-vacuity and regression witnesses (C10, C11)

Net: chain `1 ← 2 ← 3 ← 4`; `9` is rejected by `Join`; `8` belongs to another log (and links to 3).
-/
namespace Orbit.Repl.Ex

def net0 : Nat → Info := fun h =>
  match h with
  | 2 => { links := [1] }
  | 3 => { links := [2] }
  | 4 => { links := [3] }
  | 9 => { links := [], valid := false }
  | 8 => { links := [3], foreign := true }
  | _ => { links := [] }

def s0 : St := { sem := 2 }

/-- the history, then the deterministic scheduler to quiescence -/
def finish (acts : List Act) : St := drain net0 40 (run net0 s0 acts)

def settled (s : St) : Bool := quiescent s && s.failed.isEmpty

/-- C11, cancelled before it starts: the worker of the pre-cancelled request gives up at the slot
wait, the hash is remembered, the next request fetches everything -/
theorem precancelled_then_retry :
    (finish [.cancel 1, .load 1 [3], .acquire 0, .load 2 [3]]).log = [3, 2, 1] ∧
    settled (finish [.cancel 1, .load 1 [3], .acquire 0, .load 2 [3]]) = true := by decide +kernel

/-- C11, a fetch fails part-way (entry 2 unavailable), then the same heads are requested again -/
theorem fetchfail_then_retry :
    (finish [.load 1 [3], .acquire 0, .fetched 0, .finish 0, .acquire 0, .fetchFail 0, .load 2 [3]]).log = [3, 2, 1] ∧
    settled (finish [.load 1 [3], .acquire 0, .fetched 0, .finish 0, .acquire 0, .fetchFail 0, .load 2 [3]]) = true := by
  decide +kernel

/-- C11, cancelled in the middle of a fetch -/
theorem cancelled_midfetch_then_retry :
    (finish [.load 1 [3], .acquire 0, .cancel 1, .fetchFail 0, .load 2 [3]]).log = [3, 2, 1] ∧
    settled (finish [.load 1 [3], .acquire 0, .cancel 1, .fetchFail 0, .load 2 [3]]) = true := by decide +kernel

/-- C11, cancelled while waiting for a fetch slot (one slot, held by another request) -/
theorem cancelled_waiting_then_retry :
    (drain net0 40 (run net0 { sem := 1 }
      [.load 1 [9], .acquire 0, .load 2 [3], .cancel 2, .acquire 1, .fetched 0, .finish 0,
       .load 3 [3]])).log = [3, 2, 1] := by
  decide +kernel

/-- C11, cancelled between fetch and join (entry 3 fetched and buffered, its link not yet); the
worker spawned for the link has noticed the cancellation before the next request -/
theorem cancelled_before_join_then_retry :
    (finish [.load 1 [3], .acquire 0, .fetched 0, .finish 0, .cancel 1, .acquire 0, .load 2 [3]]).log = [3, 2, 1] := by
  decide +kernel

/-- C11, cancelled between `processItems` and `processEntryDone` (entry 3 buffered, its link queued,
its task still `fetching`): nothing looks at the context there, the entry is marked done -/
theorem cancelled_before_done_then_retry :
    (finish [.load 1 [3], .acquire 0, .fetched 0, .cancel 1, .finish 0, .acquire 0, .load 2 [3]]).log
      = [3, 2, 1] := by decide +kernel

/-- C10: a rejected head and a foreign head first in the batch; the valid ones all arrive -/
theorem rejected_first :
    (finish [.load 1 [9, 8, 3]]).log = [3, 2, 1] ∧ settled (finish [.load 1 [9, 8, 3]]) = true := by decide +kernel

/-- C10, the rejected entry's fetch completing between the valid ones: 3 and 9 are fetched before either
is marked done, 9 is done first, the worker spawned for 2 gets its slot before its parent 3 has run
`processEntryDone` -/
theorem rejected_between :
    (finish [.load 1 [3, 9], .acquire 0, .acquire 1, .fetched 0, .fetched 1, .finish 1, .acquire 1,
      .finish 0, .fetched 0, .finish 0, .acquire 0]).log = [3, 2, 1] := by decide +kernel

/-- the two-step fetch at work: the child (entry 2) is spawned, gets a slot, is fetched and is marked
done while its parent (entry 3) still sits between `processItems` and `processEntryDone` — task
`fetching`, slot held, log already in the buffer; nothing is flushed before the parent is done, and
everything arrives -/
theorem child_done_before_parent :
    let s := run net0 s0 [.load 1 [3], .acquire 0, .fetched 0, .acquire 1, .fetched 1, .finish 1]
    task s 3 = some .fetching ∧ task s 2 = some .fetched ∧ s.buffer = [3, 2] ∧ s.pending = [] ∧
    s.sem = 1 ∧ s.inProgress = 1 ∧
    (finish [.load 1 [3], .acquire 0, .fetched 0, .acquire 1, .fetched 1, .finish 1, .finish 0]).log
      = [3, 2, 1] := by decide +kernel

/-- a worker keeps its slot until it has run `processEntryDone`: with one slot the child cannot
start before its parent is done -/
theorem slot_held_while_finishing :
    let s := run net0 { sem := 1 } [.load 1 [3], .acquire 0, .fetched 0]
    s.sem = 0 ∧ (step net0 s (.acquire 1)).workers = s.workers ∧ (step net0 s (.acquire 1)).sem = 0 ∧
    (drain net0 40 (step net0 s (.acquire 1))).log = [3, 2, 1] := by decide +kernel

/-- **Finding.** One later request is not always enough: if the worker of a cancelled request has
not yet noticed the cancellation when the next `Load` arrives, `Load` skips its hash (it still has a
task); the old worker then gives up, the hash lands in `failed` and waits for yet another `Load`.
Here the new request for the same head 3 reaches quiescence with 2 and 1 missing. -/
theorem one_load_not_enough :
    (finish [.load 1 [3], .acquire 0, .fetched 0, .finish 0, .cancel 1, .load 2 [3]]).log = [3] ∧
    quiescent (finish [.load 1 [3], .acquire 0, .fetched 0, .finish 0, .cancel 1, .load 2 [3]]) = true ∧
    (finish [.load 1 [3], .acquire 0, .fetched 0, .finish 0, .cancel 1, .load 2 [3]]).failed = [2] := by decide +kernel

/-- … and any further request (even with no heads) completes it: at most two requests -/
theorem second_load_enough :
    (drain net0 40 (step net0 (finish [.load 1 [3], .acquire 0, .fetched 0, .finish 0, .cancel 1, .load 2 [3]])
      (.load 3 []))).log = [3, 2, 1] := by decide +kernel

/-- a hash can be in `failed` and in `tasks` at the same time (harmless: `Load` skips it) -/
theorem failed_and_task :
    let s := run net0 s0 [.load 2 [2], .acquire 0, .cancel 1, .load 1 [1], .acquire 1, .fetched 0, .finish 0]
    s.failed = [1] ∧ task s 1 = some .added := by decide +kernel

/-! ## the replicator before the repairs of F6/F7 (`stepPinned`)

* a worker that gets a slot takes the queue's *next* item, not the one it was spawned for;
* a failed or cancelled fetch marks the task `fetched`;
* a worker whose context is done while it waits for a slot just exits: item and task stay;
* `replicationLoadComplete` drops the rest of the batch at the first entry that `Join` rejects;
* there is no `failed` set: `Load` queues the heads only.

The witnesses are `C11.pinned_tree_wedges` (F7) and `C10.pinned_tree_blocks_valid` (F6). -/

def joinBatchPinned (net : Nat → Info) (log : List Nat) : List Nat → List Nat
  | [] => log
  | h :: hs =>
    if (net h).valid then joinBatchPinned net (if log.contains h then log else log ++ [h]) hs
    else log

def stepPinned (net : Nat → Info) (s : St) : Act → St
  | .load ctx hs => hs.foldl (enqueue ctx) s
  | .cancel ctx => { s with cancelled := ctx :: s.cancelled }
  | .acquire i =>
    match s.workers[i]? with
    | some ⟨ctx, _, .waitSlot⟩ =>
      if s.cancelled.contains ctx then { s with workers := removeAt s.workers i }
      else if s.sem = 0 then s
      else match s.queue with
        | [] => { s with workers := removeAt s.workers i }
        | h :: q =>
          let s := { setTask s h .fetching with queue := q, sem := s.sem - 1, inProgress := s.inProgress + 1 }
          { s with workers := s.workers.set i ⟨ctx, h, .fetching⟩ }
    | _ => s
  | .fetched i =>
    match s.workers[i]? with
    | some ⟨ctx, h, .fetching⟩ =>
      if s.cancelled.contains ctx then s else
      let s := { s with workers := s.workers.set i ⟨ctx, h, .finishing⟩ }
      if (net h).foreign then s
      else
        let s := { s with buffer := s.buffer ++ [h] }
        (net h).links.foldl (enqueue ctx) s
    | _ => s
  | .finish i =>
    match s.workers[i]? with
    | some ⟨_, h, .finishing⟩ => done { s with workers := removeAt s.workers i } h
    | _ => s
  | .fetchFail i =>
    match s.workers[i]? with
    | some ⟨_, h, .fetching⟩ => done { s with workers := removeAt s.workers i } h
    | _ => s
  | .deliver =>
    match s.pending with
    | [] => s
    | batch :: rest => { s with pending := rest, log := joinBatchPinned net s.log batch }

def drainPinned (net : Nat → Info) : Nat → St → St
  | 0, s => s
  | n+1, s => match pickMove s with
    | some a => drainPinned net n (stepPinned net s a)
    | none => s

def finishPinned (s : St) (acts : List Act) : St := drainPinned net0 40 (acts.foldl (stepPinned net0) s)

/-- the repaired replicator on the history of `C11.pinned_tree_wedges` (F7) -/
theorem fixed_cancel_ok :
    (drain net0 40 (step net0 (finish [.cancel 1, .load 1 [3], .acquire 0, .load 2 [3]]) (.load 3 [4]))).log
      = [3, 2, 1, 4] := by decide +kernel

/-- the repaired replicator on the history of `C10.pinned_tree_blocks_valid` (F6) -/
theorem fixed_mixed_ok :
    (drain net0 40 (run net0 (finish [.load 1 [9, 3]]) [.load 2 [3], .load 2 [4]])).log = [3, 2, 1, 4] := by
  decide +kernel

/-! ## known finding K2: a retried fetch that never returns withholds what later requests fetched -/

/-- two independent branches: `1 ← 2` (nobody serves 1 any more) and `5 ← 6` (entirely available) -/
def netK : Nat → Info := fun h =>
  match h with
  | 2 => { links := [1] }
  | 6 => { links := [5] }
  | _ => { links := [] }

/-- request 1 (context 1) for head 2 is cancelled while 1 is being fetched: 2 is merged, 1 goes to the
retry list. Request 2 (context 2, never cancelled) asks for the same head and the newer head 6: it
re-queues 1 under its own context; the fetch of 1 does not return; 6 and 5 are fetched. -/
def wedgeHistory : List Act :=
  [.load 1 [2], .acquire 0, .fetched 0, .finish 0, .acquire 0, .cancel 1, .fetchFail 0, .deliver,
   .load 2 [2, 6], .acquire 0, .acquire 1, .fetched 1, .finish 1, .acquire 1, .fetched 1, .finish 1]

def wedged : St := run netK s0 wedgeHistory

theorem wedged_eq : wedged =
    { log := [2], tasks := [(5, .fetched), (6, .fetched), (1, .fetching), (2, .fetched)], queue := [], failed := [],
      buffer := [6, 5], sem := 1, inProgress := 1, workers := [⟨2, 1, .fetching⟩], cancelled := [1],
      pending := [] } := by
  unfold wedged wedgeHistory; rfl

/-- **K2**: in that state 6 and 5 are fetched and buffered but not handed to the store, and no move of
the replicator or of the store other than the return of the hung fetch changes anything: the store
never sees them while the block of 1 stays unavailable -/
theorem hung_retry_withholds (a : Act) (h1 : a ≠ .fetched 0) (h2 : a ≠ .fetchFail 0)
    (h3 : ∀ c hs, a ≠ .load c hs) (h4 : ∀ c, a ≠ .cancel c) :
    step netK wedged a = wedged := by
  rw [wedged_eq]
  cases a with
  | load c hs => exact absurd rfl (h3 c hs)
  | cancel c => exact absurd rfl (h4 c)
  | acquire i => cases i <;> rfl
  | fetched i =>
    cases i with
    | zero => exact absurd rfl h1
    | succ n => rfl
  | finish i => cases i <;> rfl
  | fetchFail i =>
    cases i with
    | zero => exact absurd rfl h2
    | succ n => rfl
  | deliver => rfl

/-- once the block is served the fetch returns and everything arrives -/
theorem wedge_ends_when_the_block_is_served :
    (drain netK 40 wedged).log = [2, 6, 5, 1] ∧ quiescent (drain netK 40 wedged) = true := by decide +kernel

end Orbit.Repl.Ex
