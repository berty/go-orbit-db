import OrbitModel.Proofs.LogValues
/-!
# Reachable logs: every log built from `Log.empty` by `append` / `join` steps satisfies the
invariants, so two replicas holding the same entries list them identically.
-/
namespace Orbit

/-- one operation on a replica's log, with entries drawn from the universe `U` -/
inductive Step (canAppend : Entry → Bool) (U : List Entry) : Log → Log → Prop
  /-- `Append` allowed by the access controller: the entry built by `mk` is in the universe, carries
  the links and the Lamport time handed to `mk`, and its hash is not already held -/
  | appendOk (L : Log) (mk : Nat → List Nat → Entry)
      (hmem : mk (appendTime L) (appendNext L) ∈ U)
      (hnext : (mk (appendTime L) (appendNext L)).next = appendNext L)
      (htime : (mk (appendTime L) (appendNext L)).time = appendTime L)
      (hfresh : has L.entries (mk (appendTime L) (appendNext L)).hash = false)
      (hcan : canAppend (mk (appendTime L) (appendNext L)) = true) :
      Step canAppend U L (append canAppend L mk).1
  /-- `Append` denied: only the clock moves -/
  | appendDenied (L : Log) (mk : Nat → List Nat → Entry)
      (hcan : canAppend (mk (appendTime L) (appendNext L)) = false) :
      Step canAppend U L (append canAppend L mk).1
  /-- successful `Join` of an honest log whose entries carry our log id (the replicator filters by log id: F4) -/
  | join (L L' : Log) (A headsA : OMap) (Aid : Nat)
      (hA : Honest U A headsA) (hid : ∀ e ∈ A, e.logId = L.id)
      (h : Orbit.join canAppend L A headsA Aid = .ok L') :
      Step canAppend U L L'

inductive Reachable (canAppend : Entry → Bool) (U : List Entry) (id : Nat) : Log → Prop
  | empty : Reachable canAppend U id (Log.empty id)
  | step {L L' : Log} : Reachable canAppend U id L → Step canAppend U L L' →
      Reachable canAppend U id L'

/-- what every reachable log satisfies (`reachable_good`). `clock` says that the log's own clock bounds its
entries; only `good_step` reads it, to keep it: what the proofs need of the times follows from `inv` and
`ClockMono` (`append_time_gt`, `time_le_head`). -/
structure Good (U : List Entry) (L : Log) : Prop where
  inv    : Inv U L
  nodup  : L.entries.Nodup
  clock  : ClockInv L

theorem good_empty (U : List Entry) (id : Nat) : Good U (Log.empty id) :=
  ⟨inv_empty U id, by simp [Log.empty], clockInv_empty id⟩

theorem good_step {canAppend : Entry → Bool} {U : List Entry} (hU : HashDet U) (hM : ClockMono U)
    {L L' : Log} (hG : Good U L) (hs : Step canAppend U L L') : Good U L' := by
  cases hs with
  | appendOk mk hmem hnext htime hfresh hcan =>
    exact ⟨inv_append_clock hM canAppend L mk hG.inv hmem hnext htime hfresh,
      nodup_append canAppend L mk hG.nodup, clockInv_append canAppend L mk hG.clock htime⟩
  | appendDenied mk hcan =>
    rw [append_denied hcan]
    exact ⟨inv_clock hG.inv _, hG.nodup,
      fun x hx => Nat.le_trans (hG.clock x hx) (Nat.le_of_lt (clock_lt_appendTime L))⟩
  | join _ A headsA Aid hA hid h =>
    exact ⟨inv_join_honest hU hG.inv hA hid h, nodup_join hG.nodup h,
      clockInv_join hU hM hG.inv hG.clock hA hid h⟩

theorem step_id {canAppend : Entry → Bool} {U : List Entry} {L L' : Log}
    (hs : Step canAppend U L L') : L'.id = L.id := by
  cases hs with
  | appendOk mk | appendDenied mk => exact append_id canAppend L mk
  | join _ A headsA Aid _ _ h => exact join_id h

theorem step_mono {canAppend : Entry → Bool} {U : List Entry} {L L' : Log}
    (hs : Step canAppend U L L') : ∀ e ∈ L.entries, e ∈ L'.entries := by
  cases hs with
  | appendOk mk | appendDenied mk => exact fun e he => (append_entries canAppend L mk e).mpr (.inl he)
  | join _ A headsA Aid _ _ h => exact join_mono h

theorem reachable_good {canAppend : Entry → Bool} {U : List Entry} (hU : HashDet U) (hM : ClockMono U)
    {id : Nat} {L : Log} (h : Reachable canAppend U id L) : Good U L := by
  induction h with
  | empty => exact good_empty U id
  | step _ hs ih => exact good_step hU hM ih hs

theorem reachable_values_sorted {canAppend : Entry → Bool} {U : List Entry} (hU : HashDet U)
    (hT : TieFree U) (hM : ClockMono U) {id : Nat} {L : Log} (h : Reachable canAppend U id L) :
    (values L).Pairwise (fun a b => Entry.lt a b = true) ∧ ∀ x, x ∈ values L ↔ x ∈ L.entries :=
  values_sorted hU hT hM L (reachable_good hU hM h).inv (reachable_good hU hM h).nodup

theorem reachable_id {canAppend : Entry → Bool} {U : List Entry} {id : Nat} {L : Log}
    (h : Reachable canAppend U id L) : L.id = id := by
  induction h with
  | empty => rfl
  | step _ hs ih => rw [step_id hs, ih]

end Orbit
