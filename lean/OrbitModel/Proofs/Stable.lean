import OrbitModel.Proofs.LogExample
/-!
# Append-only, stable order of `Values()`

The listing is the entry set sorted (`values_sorted`), so a step, which only adds entries, only inserts
into it; and the time `append` gives exceeds every time held, so the new entry comes last.
"Before" is stated by decomposition: `c` is before `p` in `l` iff `∃ a b d, l = a ++ c :: b ++ p :: d`.
-/
namespace Orbit

theorem good_step_values_sublist {canAppend : Entry → Bool} {U : List Entry} (hU : HashDet U)
    (hT : TieFree U) (hM : ClockMono U) {L L' : Log} (hG : Good U L)
    (hs : Step canAppend U L L') : (values L).Sublist (values L') :=
  have hG' := good_step hU hM hG hs
  values_sublist hU hT hM L L' hG.inv hG.nodup hG'.inv hG'.nodup (step_mono hs)

theorem join_values_sublist {canAppend : Entry → Bool} {U : List Entry} (hU : HashDet U)
    (hT : TieFree U) (hM : ClockMono U) {id : Nat} {L L' : Log} {A headsA : OMap} {Aid : Nat}
    (hR : Reachable canAppend U id L) (hA : Honest U A headsA) (hid : ∀ e ∈ A, e.logId = L.id)
    (h : join canAppend L A headsA Aid = .ok L') : (values L).Sublist (values L') :=
  good_step_values_sublist hU hT hM (reachable_good hU hM hR) (.join L L' A headsA Aid hA hid h)

theorem append_values_sublist {canAppend : Entry → Bool} {U : List Entry} (hU : HashDet U)
    (hT : TieFree U) (hM : ClockMono U) {id : Nat} {L : Log} (hR : Reachable canAppend U id L)
    (mk : Nat → List Nat → Entry)
    (hmem : mk (appendTime L) (appendNext L) ∈ U)
    (hnext : (mk (appendTime L) (appendNext L)).next = appendNext L)
    (htime : (mk (appendTime L) (appendNext L)).time = appendTime L)
    (hfresh : has L.entries (mk (appendTime L) (appendNext L)).hash = false)
    (hcan : canAppend (mk (appendTime L) (appendNext L)) = true) :
    (values L).Sublist (values (append canAppend L mk).1) :=
  good_step_values_sublist hU hT hM (reachable_good hU hM hR)
    (.appendOk L mk hmem hnext htime hfresh hcan)

inductive Steps (canAppend : Entry → Bool) (U : List Entry) : Log → Log → Prop
  | refl (L : Log) : Steps canAppend U L L
  | tail {L L' L'' : Log} : Steps canAppend U L L' → Step canAppend U L' L'' → Steps canAppend U L L''

theorem good_steps {canAppend : Entry → Bool} {U : List Entry} (hU : HashDet U) (hM : ClockMono U)
    {L L' : Log} (hG : Good U L) (hs : Steps canAppend U L L') : Good U L' := by
  induction hs with
  | refl => exact hG
  | tail _ s ih => exact good_step hU hM ih s

theorem steps_values_sublist {canAppend : Entry → Bool} {U : List Entry} (hU : HashDet U)
    (hT : TieFree U) (hM : ClockMono U) {L L' : Log} (hG : Good U L)
    (hs : Steps canAppend U L L') : (values L).Sublist (values L') := by
  induction hs with
  | refl => exact List.Sublist.refl _
  | tail h s ih => exact ih.trans (good_step_values_sublist hU hT hM (good_steps hU hM hG h) s)

/-- what an entry links — the heads its writer held — is listed before it -/
theorem seen_before {U : List Entry} (hU : HashDet U) (hT : TieFree U) (hM : ClockMono U) (L : Log)
    (hG : Good U L) (p c : Entry) (hp : p ∈ L.entries) (hc : c ∈ L.entries)
    (hnext : c.hash ∈ p.next) : ∃ a b d, values L = a ++ c :: b ++ p :: d := by
  obtain ⟨s, m⟩ := values_sorted hU hT hM L hG.inv hG.nodup
  exact Trav.before_of_sorted Entry.not_lt_self Entry.lt_trans s ((m c).mpr hc) ((m p).mpr hp)
    (hM p (hG.inv.sub p hp) c (hG.inv.sub c hc) hnext)

theorem append_values {canAppend : Entry → Bool} {U : List Entry} (hU : HashDet U) (hT : TieFree U)
    (hM : ClockMono U) {L : Log} (hG : Good U L) (mk : Nat → List Nat → Entry)
    (hmem : mk (appendTime L) (appendNext L) ∈ U)
    (hnext : (mk (appendTime L) (appendNext L)).next = appendNext L)
    (htime : (mk (appendTime L) (appendNext L)).time = appendTime L)
    (hfresh : has L.entries (mk (appendTime L) (appendNext L)).hash = false)
    (hcan : canAppend (mk (appendTime L) (appendNext L)) = true) :
    values (append canAppend L mk).1 = values L ++ [mk (appendTime L) (appendNext L)] := by
  have hG' := good_step hU hM hG (.appendOk L mk hmem hnext htime hfresh hcan)
  obtain ⟨s, m⟩ := values_sorted hU hT hM L hG.inv hG.nodup
  refine values_eq_of_sorted hU hT hM hG'.inv hG'.nodup
    (List.pairwise_append.mpr ⟨s, List.pairwise_singleton _ _, fun x hx y hy => ?_⟩) fun x => ?_
  · have := append_time_gt hM hG.inv x ((m x).mp hx)
    rw [List.mem_singleton.mp hy, Entry.lt_iff]
    omega
  · rw [append_entries, List.mem_append, m, List.mem_singleton]
    exact or_congr_right ⟨fun h => h.1, fun h => ⟨h, h ▸ hcan, h ▸ hfresh⟩⟩

theorem append_listed_last {canAppend : Entry → Bool} {U : List Entry} (hU : HashDet U)
    (hT : TieFree U) (hM : ClockMono U) {L : Log} (hG : Good U L) (mk : Nat → List Nat → Entry)
    (hmem : mk (appendTime L) (appendNext L) ∈ U)
    (hnext : (mk (appendTime L) (appendNext L)).next = appendNext L)
    (htime : (mk (appendTime L) (appendNext L)).time = appendTime L)
    (hfresh : has L.entries (mk (appendTime L) (appendNext L)).hash = false)
    (hcan : canAppend (mk (appendTime L) (appendNext L)) = true) :
    (values (append canAppend L mk).1).getLast? = some (mk (appendTime L) (appendNext L)) := by
  rw [append_values hU hT hM hG mk hmem hnext htime hfresh hcan, List.getLast?_concat]

theorem own_entries_in_order {canAppend : Entry → Bool} {U : List Entry} (hU : HashDet U)
    (hT : TieFree U) (hM : ClockMono U) {L L₂ : Log} (hG : Good U L)
    (mk₁ : Nat → List Nat → Entry)
    (hmem₁ : mk₁ (appendTime L) (appendNext L) ∈ U)
    (hnext₁ : (mk₁ (appendTime L) (appendNext L)).next = appendNext L)
    (htime₁ : (mk₁ (appendTime L) (appendNext L)).time = appendTime L)
    (hfresh₁ : has L.entries (mk₁ (appendTime L) (appendNext L)).hash = false)
    (hcan₁ : canAppend (mk₁ (appendTime L) (appendNext L)) = true)
    (hsteps : Steps canAppend U (append canAppend L mk₁).1 L₂)
    (mk₂ : Nat → List Nat → Entry)
    (hmem₂ : mk₂ (appendTime L₂) (appendNext L₂) ∈ U)
    (hnext₂ : (mk₂ (appendTime L₂) (appendNext L₂)).next = appendNext L₂)
    (htime₂ : (mk₂ (appendTime L₂) (appendNext L₂)).time = appendTime L₂)
    (hfresh₂ : has L₂.entries (mk₂ (appendTime L₂) (appendNext L₂)).hash = false)
    (hcan₂ : canAppend (mk₂ (appendTime L₂) (appendNext L₂)) = true) :
    ∃ a b, values (append canAppend L₂ mk₂).1 =
      a ++ mk₁ (appendTime L) (appendNext L) :: b ++ [mk₂ (appendTime L₂) (appendNext L₂)] := by
  have hG₁ : Good U (append canAppend L mk₁).1 :=
    good_step hU hM hG (.appendOk L mk₁ hmem₁ hnext₁ htime₁ hfresh₁ hcan₁)
  have hG₂ := good_steps hU hM hG₁ hsteps
  have hsub := steps_values_sublist hU hT hM hG₁ hsteps
  rw [append_values hU hT hM hG mk₁ hmem₁ hnext₁ htime₁ hfresh₁ hcan₁] at hsub
  have hin : mk₁ (appendTime L) (appendNext L) ∈ values L₂ :=
    hsub.subset (List.mem_append_right _ List.mem_cons_self)
  obtain ⟨a, b, hab⟩ := List.append_of_mem hin
  exact ⟨a, b, by rw [append_values hU hT hM hG₂ mk₂ hmem₂ hnext₂ htime₂ hfresh₂ hcan₂, hab]⟩

namespace Example

/-- merging replica 2's log into replica 1's: `[a, b]` is a subsequence of `[a, b, c]` -/
example : (values P2).Sublist (values R1) :=
  good_step_values_sublist hU hT hM (reachable_good hU hM reach_P2) step_R1

/-- and on replica 2 the merge inserts `b` *between* `a` and `c`: `[a, c]` ⊑ `[a, b, c]` -/
example : (values Q2).Sublist (values R2) ∧ values Q2 = [a, c] ∧ values R2 = [a, b, c] :=
  ⟨good_step_values_sublist hU hT hM (reachable_good hU hM reach_Q2) step_R2, by decide, by decide⟩

/-- `c` links to `a`: `a` is listed before `c` in the merged log -/
example : ∃ x y z, values R1 = x ++ a :: y ++ c :: z :=
  seen_before hU hT hM R1 (reachable_good hU hM reach_R1) c a (by decide) (by decide) (by decide)

/-- appending `b` to replica 1 lists it last -/
example : (values P2).getLast? = some b :=
  append_listed_last (canAppend := ca) hU hT hM (reachable_good hU hM reach_P1)
    (fun _ _ => b) (by decide) (by decide) (by decide) (by decide) rfl

end Example

end Orbit
