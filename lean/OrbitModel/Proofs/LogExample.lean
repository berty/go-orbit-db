import OrbitModel.Proofs.LogReach
/-!
# A concrete 3-entry fork: the hypotheses are satisfiable (`Properties/C01.lean` applies the theorem to it)

Replica 1 appends `a` then `b`; replica 2 joins `a` and appends `c` concurrently with `b`
(same Lamport time 2, different clock ids). Each then joins the other. The entry maps differ in
insertion order, `Values()` agrees.
-/
namespace Orbit.Example

def a : Entry := { hash := 1, logId := 9, time := 1, cid := 0, next := [] }
def b : Entry := { hash := 2, logId := 9, time := 2, cid := 0, next := [1] }
def c : Entry := { hash := 3, logId := 9, time := 2, cid := 1, next := [1] }
def U : List Entry := [a, b, c]
def ca : Entry → Bool := fun _ => true

theorem hU : HashDet U := by unfold HashDet; decide
theorem hT : TieFree U := by unfold TieFree; decide
theorem hM : ClockMono U := by unfold ClockMono; decide

example : HashDet U ∧ TieFree U ∧ ClockMono U := ⟨hU, hT, hM⟩

def okOr (x : Except Err Log) (d : Log) : Log := match x with | .ok l => l | .error _ => d

def E  : Log := Log.empty 9
def P1 : Log := (append ca E (fun _ _ => a)).1
def P2 : Log := (append ca P1 (fun _ _ => b)).1
def Q1 : Log := okOr (join ca E [a] [a] 9) E
def Q2 : Log := (append ca Q1 (fun _ _ => c)).1
def R1 : Log := okOr (join ca P2 Q2.entries Q2.heads 9) P2
def R2 : Log := okOr (join ca Q2 P2.entries P2.heads 9) Q2

theorem reach_P1 : Reachable ca U 9 P1 :=
  .step .empty (.appendOk E (fun _ _ => a) (by decide) (by decide) (by decide) (by decide) rfl)

theorem reach_P2 : Reachable ca U 9 P2 :=
  .step reach_P1 (.appendOk P1 (fun _ _ => b) (by decide) (by decide) (by decide) (by decide) rfl)

theorem reach_Q2 : Reachable ca U 9 Q2 := by
  have h1 : Reachable ca U 9 Q1 :=
    .step .empty (.join E Q1 [a] [a] 9 ⟨by decide, by decide⟩ (by decide) rfl)
  exact .step h1 (.appendOk Q1 (fun _ _ => c) (by decide) (by decide) (by decide) (by decide) rfl)

theorem step_R1 : Step ca U P2 R1 :=
  .join P2 R1 Q2.entries Q2.heads 9 ⟨by decide, by decide⟩ (by decide) rfl

theorem step_R2 : Step ca U Q2 R2 :=
  .join Q2 R2 P2.entries P2.heads 9 ⟨by decide, by decide⟩ (by decide) rfl

theorem reach_R1 : Reachable ca U 9 R1 := .step reach_P2 step_R1

theorem reach_R2 : Reachable ca U 9 R2 := .step reach_Q2 step_R2

theorem R1_entries : R1.entries = [a, b, c] := by decide
theorem R2_entries : R2.entries = [a, c, b] := by decide

example : R1.entries = [a, b, c] ∧ R2.entries = [a, c, b] := ⟨R1_entries, R2_entries⟩

theorem same_entries : ∀ x, x ∈ R1.entries ↔ x ∈ R2.entries := fun x => by
  rw [R1_entries, R2_entries]
  exact ((List.Perm.swap c b []).cons a).mem_iff

/-- by direct evaluation; that the two listings agree is what `C01.same_entries_same_listing` says of this fork -/
example : values R1 = [a, b, c] ∧ values R2 = [a, b, c] ∧ sortedHeads R1 = [c, b] := by decide +kernel

end Orbit.Example
