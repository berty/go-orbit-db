import OrbitModel.Proofs.EmitterStep
/-!
# C16 for the legacy channel API: ordering and losslessness of `handleSubscriber` (repaired code)

For every capacity and every interleaving of emits, forwarder steps, drainer steps, receives and
cancellation, two facts are kept (`FifoInv`, `fifoInv_run`):

* `Fifo`        while the context is alive, `delivered ++ pipeline = emitted`
                (nothing lost, nothing duplicated, nothing reordered, wherever the events sit);
* `ChanPrefix`  always (also after cancellation, when undelivered events may be dropped)
                what has reached the subscriber or its channel is a prefix of `emitted`.
-/
namespace Orbit.Emit
variable {p : Bool} {s t : St} {a : Act}

theorem Next.cap (h : Next p s a t) : t.cap = s.cap := by cases h <;> rfl

theorem run_cap (p : Bool) (s : St) (l : List Act) : (run p s l).cap = s.cap :=
  run_inv (P := fun t => t.cap = s.cap) (fun _ _ _ h hs => h.cap.trans hs) l rfl

/-- model sanity (both versions) -/
theorem chan_le_cap (p : Bool) (cap : Nat) (acts : List Act) :
    (run p (init cap) acts).chan.length ≤ cap := by
  have h := run_inv (P := fun s => s.chan.length ≤ s.cap) (p := p) (fun s a t h hs => by
    cases h with
    | recv hc => rw [hc] at hs; exact Nat.le_of_succ_le hs
    | g1direct _ _ _ _ _ _ hl | g2send _ _ hl => rw [List.length_append]; exact hl
    | _ => exact hs) acts (s := init cap) (Nat.zero_le _)
  rwa [run_cap] at h

theorem Next.cancelled_mono (h : Next p s a t) (hs : s.cancelled = true) : t.cancelled = true := by
  cases h <;> first | exact hs | rfl

theorem Next.alive (h : Next p s a t) (ht : t.cancelled = false) : s.cancelled = false :=
  Bool.eq_false_iff.mpr fun hs => by rw [h.cancelled_mono hs] at ht; cases ht

/-- `ht` speaks of the target, so `cancel` itself is covered; after it only receives move events -/
theorem Next.frozen (h : Next p s a t) (ht : t.cancelled = true) :
    t.delivered ++ t.chan = s.delivered ++ s.chan ∧ t.emitted = s.emitted := by
  cases h <;> simp_all

theorem frozen_run (p : Bool) (acts : List Act) (hs : s.cancelled = true) :
    (run p s acts).delivered ++ (run p s acts).chan = s.delivered ++ s.chan ∧
    (run p s acts).emitted = s.emitted :=
  (run_inv (P := fun t => t.cancelled = true ∧ t.delivered ++ t.chan = s.delivered ++ s.chan ∧
      t.emitted = s.emitted)
    (fun _ _ _ h ⟨hc, h1, h2⟩ =>
      have hc' := h.cancelled_mono hc
      ⟨hc', (h.frozen hc').1.trans h1, (h.frozen hc').2.trans h2⟩) acts ⟨hs, rfl, rfl⟩).2

/-- the event G2 has taken from the queue and not yet put into the channel -/
def flight : G2 → List Nat
  | .sending e => [e]
  | _ => []

theorem pipeline_eq (s : St) : pipeline s = s.chan ++ flight s.g2 ++ s.queue ++ s.bus := rfl

@[simp] theorem flight_sending (e : Nat) : flight (.sending e) = [e] := rfl
@[simp] theorem flight_of_ne {g : G2} (h : ∀ e, g ≠ .sending e) : flight g = [] := by
  cases g <;> first | rfl | exact absurd rfl (h _)
@[simp] theorem flight_wake (g : G2) : flight (wake g) = flight g := by cases g <;> rfl

theorem flight_of_not_inflight (h : inflight s = false) : flight s.g2 = [] :=
  flight_of_ne fun e he => by simp [inflight, he] at h

def Fifo (s : St) : Prop := s.delivered ++ pipeline s = s.emitted

theorem Next.fifo (h : Next false s a t) (ht : t.cancelled = false) (hF : Fifo s) : Fifo t := by
  unfold Fifo at *
  rw [pipeline_eq] at *
  cases h with
  | emit e _ => simp only [← hF, List.append_assoc]
  | g1direct _ _ hb _ hq hfl =>
    -- the direct send overtakes nothing only because the queue is empty *and* nothing is in flight
    have := flight_of_not_inflight (hfl.resolve_left nofun)
    simp_all
  | _ => simp_all

def ChanPrefix (s : St) : Prop := s.delivered ++ s.chan <+: s.emitted

theorem chanPrefix_of_fifo (h : Fifo s) : ChanPrefix s := by
  unfold ChanPrefix
  rw [← h, pipeline_eq]
  simp only [List.append_assoc]
  exact List.prefix_append_right_inj _ |>.mpr (List.prefix_append _ _)

/-- the invariant behind C16: `Fifo` while the context is alive, `ChanPrefix` always -/
def FifoInv (s : St) : Prop := (s.cancelled = false → Fifo s) ∧ ChanPrefix s

theorem Next.fifoInv (h : Next false s a t) (hP : FifoInv s) : FifoInv t := by
  have hF := fun ht => h.fifo ht (hP.1 (h.alive ht))
  refine ⟨hF, ?_⟩
  cases ht : t.cancelled with
  | false => exact chanPrefix_of_fifo (hF ht)
  | true => unfold ChanPrefix; rw [(h.frozen ht).1, (h.frozen ht).2]; exact hP.2

theorem fifoInv_init (cap : Nat) : FifoInv (init cap) := ⟨fun _ => rfl, chanPrefix_of_fifo rfl⟩

theorem fifoInv_run (acts : List Act) (h : FifoInv s) : FifoInv (run false s acts) :=
  run_inv (fun _ _ _ => Next.fifoInv) acts h

/-- a slow reader, capacity 1: event 2 is in flight in G2 when G1 sees an empty queue and room -/
def overtakeSchedule : List Act :=
  [.emit 1, .g1, .emit 2, .g1, .g2, .recv, .emit 3, .g1, .recv, .g2, .recv]

/-- the repaired code on the schedule of `C16.pinned_tree_reorders` -/
theorem repaired_same_schedule :
    (run false (init 1) overtakeSchedule).delivered = [1, 2] ∧
    pipeline (run false (init 1) overtakeSchedule) = [3] := by decide

/-- non-vacuity: an alive state with events in every stage of the pipeline at once -/
example : let s := run false (init 1) [.emit 1, .emit 2, .emit 3, .emit 4, .g1, .g1, .g2, .g1]
    s.cancelled = false ∧ s.chan = [1] ∧ s.g2 = .sending 2 ∧ s.queue = [3] ∧ s.bus = [4] ∧
    pipeline s = [1, 2, 3, 4] := by decide

/-- non-vacuity: after cancellation events are really dropped (so `ChanPrefix` is the most one can
say), here with capacity 0 -/
example : let s := run false (init 0) [.emit 1, .g1, .g2, .cancel, .g2, .g2, .g1, .g2, .recv]
    s.delivered = [] ∧ s.emitted = [1] ∧ s.closed = true := by decide

end Orbit.Emit
