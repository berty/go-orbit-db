import OrbitModel.Proofs.SnapshotRT
/-!
# Racing `SaveSnapshot`: the order of the three reads matters; examples   (C13)

A "tidied-up" `SaveSnapshot` reading the entries first, then the heads, then the size, "succeeds" but
writes a snapshot that cannot be loaded as soon as the log grew in between: the header announces more
records than were written. The same three logs saved in the order of the Go code load back as the first
state. `hole_filled_is_loaded`: the hypothesis `hclosed` of `saveRacing_load` is needed.
-/
namespace Orbit.Snap

theorem saveRacingReordered_load_none {acl : Acl} {ser : Entry → List Nat}
    {serHeader : Image → List Nat} {de : List Nat → Option Entry}
    {deHeader : List Nat → Option (Nat × List Entry × Nat)} {L1 L2 L3 : Log} {bs : List Nat}
    (hdh : deHeader (serHeader (racingImage L2 L3)) = some (L2.id, sortedHeads L2, L3.entries.length))
    (hgrow : L1.entries.length < L3.entries.length)
    (hs : saveRacingReordered ser serHeader L1 L2 L3 = some bs) :
    load acl de deHeader bs = none :=
  load_written_short hs hdh (by rw [List.length_map]; exact hgrow)

theorem saveRacingReordered_some {ser : Entry → List Nat} {serHeader : Image → List Nat}
    {L1 L2 L3 : Log} (hh : (serHeader (racingImage L2 L3)).length ≤ 65535)
    (he : ∀ e ∈ L1.entries, (ser e).length ≤ 65535) :
    ∃ bs, saveRacingReordered ser serHeader L1 L2 L3 = some bs := by
  show ∃ bs, written _ _ = some bs
  cases h : written (serHeader (racingImage L2 L3)) (L1.entries.map ser) with
  | some b => exact ⟨_, rfl⟩
  | none =>
    rcases (written_none_iff _ _).1 h with hl | ⟨r, hr, hl⟩
    · omega
    · obtain ⟨e, he', rfl⟩ := List.mem_map.mp hr
      have := he e he'; omega

end Orbit.Snap

namespace Orbit.Snap.Example

/-! `L1`, `L2`, `L3` are the three states of the example in `Proofs/SnapshotRT.lean`. -/

example : L1.entries = [a] ∧ L2.entries = L1.entries ++ [b] ∧ L3.entries = L2.entries ++ [c] := by decide

/-- Go order (heads `L1`, size `L2`, entries `L3`): header (id 9, size 2, head 1), three records -/
theorem saveRacing_L123 : saveRacing ser serHeader L1 L2 L3 =
    some [0, 3, 9, 2, 1,  0, 1, 1,  0, 1, 2,  0, 1, 3,  0] := by decide +kernel

example : saveRacing ser serHeader L1 L2 L3 =
    some [0, 3, 9, 2, 1,  0, 1, 1,  0, 1, 2,  0, 1, 3,  0] := saveRacing_L123

/-- ... which loads back as the state at the first read, `L1` -/
example : ((saveRacing ser serHeader L1 L2 L3).bind (load acl de deHeader)).map
      (fun l => (l.id, l.entries, values l, sortedHeads l)) =
    some (9, [a], [a], [a]) ∧ (L1.entries, values L1, sortedHeads L1) = ([a], [a], [a]) := by decide +kernel

/-- the reordered reads (entries `L1`, heads `L2`, size `L3`): header (id 9, size 3, head 2) and ONE record -/
theorem reordered_unloadable :
    saveRacingReordered ser serHeader L1 L2 L3 = some [0, 3, 9, 3, 2,  0, 1, 1,  0] ∧
    load acl de deHeader [0, 3, 9, 3, 2,  0, 1, 1,  0] = none ∧
    L1.entries.length < L3.entries.length := by decide +kernel

example : load acl de deHeader [0, 3, 9, 3, 2,  0, 1, 1,  0] = none :=
  saveRacingReordered_load_none (ser := ser) (serHeader := serHeader) (L1 := L1) (L2 := L2) (L3 := L3)
    (by decide) reordered_unloadable.2.2 reordered_unloadable.1

example : ∃ L', load acl de deHeader [0, 3, 9, 2, 1,  0, 1, 1,  0, 1, 2,  0, 1, 3,  0] = some L' ∧
    (∀ e, e ∈ L'.entries ↔ e ∈ L1.entries) ∧ values L' = values L1 ∧
    sortedHeads L' = sortedHeads L1 :=
  saveRacing_load (U := U) (ser := ser) (serHeader := serHeader) (L1 := L1) (L2 := L2) (L3 := L3)
    (x := [b]) (y := [c]) (by decide) (by decide) hU hT hM (reachable_good hU hM reach_L1)
    (by decide) (by decide) (by decide) (by decide) (by decide) (by decide) saveRacing_L123

example : (∀ e ∈ U, de (ser e) = some e) ∧
    deHeader (serHeader (racingImage L1 L2)) = some (L1.id, sortedHeads L1, L2.entries.length) := by
  decide

/-! `hclosed` is needed: a racing join that fills a hole of `L1` ends up in the loaded log. -/

def d : Entry := { hash := 4, logId := 9, time := 3, cid := 0, next := [2] }
def lookup' : Nat → Option Entry
  | 1 => some a | 2 => some b | 3 => some c | 4 => some d | _ => none
def de' : List Nat → Option Entry
  | [h] => lookup' h
  | _ => none
def deHeader' : List Nat → Option (Nat × List Entry × Nat)
  | id :: n :: hs => (hs.mapM lookup').map (fun heads => (id, heads, n))
  | _ => none

/-- a replica that so far fetched only `d` (its parent `b` is a hole) ... -/
def H1 : Log := okOr (join acl.canAppend (Log.empty 9) [d] [d] 9) (Log.empty 9)
/-- ... then receives `b` and `a` while `SaveSnapshot` runs -/
def H2 : Log := okOr (join acl.canAppend H1 [b, a] [b] 9) H1

theorem hole_filled_is_loaded :
    H1.entries = [d] ∧ H2.entries = H1.entries ++ [b, a] ∧ sortedHeads H1 = [d] ∧
    -- `hclosed` fails: `b` arrived in between and is the `next` of `d`
    (b ∈ [b, a] ∧ b.hash ∈ d.next ∧ b ∉ H1.entries) ∧
    -- the snapshot loads, but as `{d, b, a}`, not as the state `{d}` of the first read
    ((saveRacing ser serHeader H1 H2 H2).bind (load acl de' deHeader')).map
      (fun l => (l.entries, values l, sortedHeads l)) = some ([d, b, a], [a, b, d], [d]) ∧
    values H1 = [d] := by decide +kernel

end Orbit.Snap.Example
