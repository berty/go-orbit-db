import OrbitModel.Proofs.ReplMove
/-!
# Replicator: the safety invariant `Inv`

`InvS` — the structural part (workers ↔ tasks ↔ queue, buffer/pending/log contents; a worker
between `processItems` and `processEntryDone` — pc `finishing` — has task `fetching`, holds a slot and
its log is in the buffer); `Closure` — no hole is ever forgotten; `Inv` adds the semaphore count and
"a non-empty buffer means the replicator is not idle".
-/
namespace Orbit.Repl

def isWait (w : Worker) : Bool := w.pc == .waitSlot
/-- the worker holds a slot and is counted by `taskInProgress`: inside the fetch, or between
`processItems` and `processEntryDone` -/
def isHold (w : Worker) : Bool := w.pc != .waitSlot

@[simp] theorem isHold_wait (c h : Nat) : isHold ⟨c, h, .waitSlot⟩ = false := rfl
@[simp] theorem isHold_fetching (c h : Nat) : isHold ⟨c, h, .fetching⟩ = true := rfl
@[simp] theorem isHold_finishing (c h : Nat) : isHold ⟨c, h, .finishing⟩ = true := rfl
@[simp] theorem isWait_wait (c h : Nat) : isWait ⟨c, h, .waitSlot⟩ = true := rfl
@[simp] theorem isWait_fetching (c h : Nat) : isWait ⟨c, h, .fetching⟩ = false := rfl
@[simp] theorem isWait_finishing (c h : Nat) : isWait ⟨c, h, .finishing⟩ = false := rfl

structure InvS (net : Nat → Info) (s : St) : Prop where
  inprog_eq : s.inProgress = s.workers.countP isHold
  keys_nodup : (s.tasks.map (·.1)).Nodup
  w_nodup : (s.workers.map (·.item)).Nodup
  w_task : ∀ w ∈ s.workers, task s w.item = some (tsOf w.pc)
  /-- no task is ever orphaned (on the pinned tree one is: `C11.pinned_tree_wedges`) -/
  task_w : ∀ h t, task s h = some t → t ≠ .fetched → ∃ w ∈ s.workers, w.item = h ∧ tsOf w.pc = t
  queue_eq : s.queue = (s.workers.filter isWait).map (·.item)
  pend_fetched : ∀ b ∈ s.pending, ∀ h ∈ b, task s h = some .fetched ∧ (net h).foreign = false
  buf_got : ∀ h ∈ s.buffer, got s h ∧ (net h).foreign = false
  fin_buf : ∀ w ∈ s.workers, w.pc = .finishing → (net w.item).foreign = false → w.item ∈ s.buffer
  buf_nodup : s.buffer.Nodup
  log_nodup : s.log.Nodup
  log_ok : ∀ h ∈ s.log, task s h = some .fetched ∧ (net h).valid = true ∧ (net h).foreign = false
  fetched_in : ∀ h, task s h = some .fetched → (net h).valid = true → (net h).foreign = false →
    h ∈ s.log ∨ inBP s h

/-- **no hole is ever forgotten**: every link of a fetched entry of this log is in the oplog, has a
task, or is remembered for retry -/
def Closure (net : Nat → Info) (s : St) : Prop :=
  ∀ h, got s h → (net h).foreign = false → ∀ l ∈ (net h).links, tracked s l

structure Inv (net : Nat → Info) (c : Nat) (s : St) : Prop extends InvS net s where
  closure : Closure net s
  sem_eq : s.sem + s.inProgress = c
  buf_idle : s.buffer ≠ [] → isIdle s = false

theorem finAt_congr {s s' : St} (h : s'.workers = s.workers) (k : Nat) : finAt s' k ↔ finAt s k := by
  simp only [finAt, h]

theorem got_congr {s s' : St} (h2 : s'.workers = s.workers) (h3 : s'.tasks = s.tasks) (k : Nat) :
    got s' k ↔ got s k := by
  simp only [got, task_congr h3, finAt_congr h2]

theorem finAt_relabel {s s' : St} {l1 l2 : List Worker} {ctx hh : Nat} {pc pc' : PC}
    (hw : s.workers = l1 ++ ⟨ctx, hh, pc⟩ :: l2) (hw' : s'.workers = l1 ++ ⟨ctx, hh, pc'⟩ :: l2) {k : Nat} :
    finAt s' k → finAt s k ∨ (k = hh ∧ pc' = .finishing) := by
  rintro ⟨w, hm, rfl, hp⟩
  rw [hw'] at hm
  rcases List.mem_append_cons_iff.1 hm with rfl | hm
  · exact .inr ⟨rfl, hp⟩
  · exact .inl ⟨w, hw ▸ List.mem_append_cons_iff.2 (.inr hm), rfl, hp⟩

theorem InvS.finAt_task {net : Nat → Info} {s : St} (h : InvS net s) {k : Nat} (hk : finAt s k) :
    task s k = some .fetching := by
  obtain ⟨w, hw, rfl, hp⟩ := hk
  have := h.w_task w hw
  rw [hp] at this; exact this

theorem InvS.inProgress_pos {net : Nat → Info} {s : St} (h : InvS net s) {l1 l2 : List Worker} {w : Worker}
    (hw : s.workers = l1 ++ w :: l2) (hh : isHold w = true) : 0 < s.inProgress := by
  rw [h.inprog_eq, hw, List.countP_append, List.countP_cons_of_pos hh]; omega

theorem InvS.bp_got {net : Nat → Info} {s : St} (h : InvS net s) (k : Nat) (hk : inBP s k) :
    got s k ∧ (net k).foreign = false := by
  rcases hk with hk | ⟨b, hb, hk⟩
  · exact h.buf_got k hk
  · exact ⟨Or.inl (h.pend_fetched b hb k hk).1, (h.pend_fetched b hb k hk).2⟩

theorem InvS.congr {net : Nat → Info} {s s' : St} (h : InvS net s)
    (h1 : s'.inProgress = s.inProgress) (h2 : s'.workers = s.workers) (h3 : s'.tasks = s.tasks)
    (h4 : s'.queue = s.queue) (h5 : s'.log = s.log) (h6 : s'.buffer = s.buffer)
    (h7 : s'.pending = s.pending) : InvS net s' where
  inprog_eq := by rw [h1, h2]; exact h.inprog_eq
  keys_nodup := by rw [h3]; exact h.keys_nodup
  w_nodup := by rw [h2]; exact h.w_nodup
  w_task := by intro w hw; rw [task_congr h3]; exact h.w_task w (h2 ▸ hw)
  task_w := by intro k t; rw [task_congr h3, h2]; exact h.task_w k t
  queue_eq := by rw [h4, h2]; exact h.queue_eq
  pend_fetched := by intro b hb k hk; rw [task_congr h3]; exact h.pend_fetched b (h7 ▸ hb) k hk
  buf_got := by intro k hk; rw [got_congr h2 h3]; exact h.buf_got k (h6 ▸ hk)
  fin_buf := by intro w hw; rw [h6]; exact h.fin_buf w (h2 ▸ hw)
  buf_nodup := by rw [h6]; exact h.buf_nodup
  log_nodup := by rw [h5]; exact h.log_nodup
  log_ok := by intro k hk; rw [task_congr h3]; exact h.log_ok k (h5 ▸ hk)
  fetched_in := by
    intro k; rw [task_congr h3, h5, inBP_congr h6 h7]; exact h.fetched_in k

/-- `idle()` only fires when every task is `fetched`: then no worker is `finishing`, and everything in
the buffer belongs to a finished task -/
theorem InvS.flush {net : Nat → Info} {s : St} (h : InvS net s) : InvS net (flush s) := by
  rcases flush_cases s with e | ⟨hidle, _, e⟩
  · rw [e]; exact h
  · have hnf : ∀ k, ¬ finAt s k := fun k hk => by
      have := isIdle_false_of_task (h.finAt_task hk) nofun
      rw [hidle] at this; cases this
    rw [e]
    exact { h with
      pend_fetched := by
        intro b hb k hk
        rcases List.mem_append.1 hb with hb | hb
        · exact h.pend_fetched b hb k hk
        · rw [List.mem_singleton.1 hb] at hk
          exact ⟨(h.buf_got k hk).1.resolve_right (hnf k), (h.buf_got k hk).2⟩
      buf_got := nofun
      fin_buf := fun w hw hp _ => absurd ⟨w, hw, rfl, hp⟩ (hnf w.item)
      buf_nodup := List.nodup_nil
      fetched_in := fun k hk hv hf =>
        (h.fetched_in k hk hv hf).imp_right fun h' => e ▸ (inBP_flush s k).2 h' }

section
variable {net : Nat → Info} {s : St}

theorem InvS.task_iff (h : InvS net s) (k : Nat) {t : TS} (ht : t ≠ .fetched) :
    task s k = some t ↔ ∃ w ∈ s.workers, w.item = k ∧ tsOf w.pc = t :=
  ⟨fun hk => h.task_w k t hk ht, fun ⟨w, hm, e, hp⟩ => e ▸ hp ▸ h.w_task w hm⟩

theorem isWait_iff {w : Worker} : isWait w = true ↔ tsOf w.pc = .added := by
  obtain ⟨_, _, pc⟩ := w; cases pc <;> simp [isWait, tsOf]

theorem InvS.mem_queue_iff (h : InvS net s) (k : Nat) : k ∈ s.queue ↔ task s k = some .added := by
  rw [h.queue_eq, h.task_iff k (t := .added) nofun, List.mem_map]
  constructor
  · rintro ⟨w, hw, e⟩
    exact ⟨w, (List.mem_filter.1 hw).1, e, isWait_iff.1 (List.mem_filter.1 hw).2⟩
  · rintro ⟨w, hm, e, hp⟩
    exact ⟨w, List.mem_filter.2 ⟨hm, isWait_iff.2 hp⟩, e⟩

theorem InvS.fetching_iff (h : InvS net s) (k : Nat) :
    task s k = some .fetching ↔
      ∃ w ∈ s.workers, w.item = k ∧ (w.pc = .fetching ∨ w.pc = .finishing) := by
  have : ∀ pc, tsOf pc = .fetching ↔ pc = .fetching ∨ pc = .finishing := by intro pc; cases pc <;> simp [tsOf]
  simp only [h.task_iff k (t := .fetching) nofun, this]

end

theorem Closure.transfer {net : Nat → Info} {s s' : St} (h : Closure net s)
    (hg : ∀ k, (net k).foreign = false → got s' k → got s k)
    (ht : ∀ l, tracked s l → tracked s' l) : Closure net s' :=
  fun k hk hf l hl => ht l (h k (hg k hf hk) hf l hl)

theorem Closure.congr {net : Nat → Info} {s s' : St} (h : Closure net s) (h1 : s'.log = s.log)
    (h2 : s'.tasks = s.tasks) (h3 : s'.failed = s.failed) (h4 : s'.workers = s.workers) :
    Closure net s' :=
  h.transfer (fun k _ hk => (got_congr h4 h2 k).1 hk) (fun l hl => (tracked_congr h1 h2 h3 l).2 hl)

/-- closing a step: flush, then give `d` slots back -/
theorem Inv.flushed {net : Nat → Info} {c : Nat} {s : St} (d : Nat) (h : InvS net s)
    (hc : Closure net s) (hs : s.sem + d + s.inProgress = c) :
    Inv net c { flush s with sem := (flush s).sem + d } where
  toInvS := h.flush.congr rfl rfl rfl rfl rfl rfl rfl
  closure := hc.congr (flush_log s) (flush_tasks s) (flush_failed s) (flush_workers s)
  sem_eq := by show (flush s).sem + d + (flush s).inProgress = c; simpa using hs
  buf_idle := by
    intro hb
    exact (isIdle_congr (s' := { flush s with sem := (flush s).sem + d }) (s := flush s)
      rfl rfl rfl).trans (flush_buf_idle s hb)

/-! `holds`/`holding` are `isHold`/`countP isHold` in the words of the property statement (C11,
`Inv.slots`: no aborted request leaks a slot). The harness checks the same equation on the real
replicator at every rest; seeded change C11b removes the release from `processEntryFailed`. -/

/-- a worker holds a slot while it fetches and until it has run `processEntryDone` -/
def holds (w : Worker) : Bool := w.pc == .fetching || w.pc == .finishing

def holding (ws : List Worker) : Nat := (ws.filter holds).length

theorem holds_eq_isHold : holds = isHold := by
  funext ⟨_, _, pc⟩; cases pc <;> rfl

theorem holding_eq (ws : List Worker) : holding ws = ws.countP isHold := by
  rw [holding, holds_eq_isHold, List.countP_eq_length_filter]

theorem Inv.slots {net : Nat → Info} {c : Nat} {s : St} (h : Inv net c s) :
    s.sem + holding s.workers = c ∧ s.inProgress = holding s.workers := by
  rw [holding_eq, ← h.inprog_eq]; exact ⟨h.sem_eq, rfl⟩

end Orbit.Repl
