import OrbitModel.Proofs.ReplTerm
/-!
# Replicator: the deterministic scheduler picks a move while there is one, and so reaches quiescence
(explicit fuel), forgetting nothing
-/
namespace Orbit.Repl

/-- no worker belongs to a cancelled request -/
def Clean (s : St) : Prop := ∀ w ∈ s.workers, s.cancelled.contains w.ctx = false

variable {net : Nat → Info} {F : Nat → Prop} {c : Nat} {s s' : St} {U : List Nat}

theorem findIdx_some_pc {l : List Worker} {pc : PC} {i : Nat}
    (h : l.findIdx? (fun w => w.pc == pc) = some i) : ∃ ctx hh, l[i]? = some ⟨ctx, hh, pc⟩ := by
  obtain ⟨hi, hp, _⟩ := List.findIdx?_eq_some_iff_getElem.1 h
  refine ⟨l[i].ctx, l[i].item, ?_⟩
  rw [List.getElem?_eq_getElem hi, ← eq_of_beq hp]

theorem findIdx_none_pc {l : List Worker} {pc : PC} (h : l.findIdx? (fun w => w.pc == pc) = none)
    {w : Worker} (hw : w ∈ l) : w.pc ≠ pc := by
  have := List.findIdx?_eq_none_iff.1 h w hw
  simpa using this

theorem pickMove_spec (hi : Inv net c s) (hc : 0 < c) :
    (pickMove s = none ∧ s.workers = [] ∧ s.pending = []) ∨
    ∃ a, pickMove s = some a ∧ Move net (s.cancelled.contains · = true) s (step net s a) := by
  unfold pickMove
  cases h0 : s.workers.findIdx? (fun w => w.pc == .finishing) with
  | some i =>
    obtain ⟨ctx, hh, hwi⟩ := findIdx_some_pc h0
    exact .inr ⟨_, rfl, .of_finish hwi⟩
  | none =>
  cases h1 : s.workers.findIdx? (fun w => w.pc == .fetching) with
  | some i =>
    obtain ⟨ctx, hh, hwi⟩ := findIdx_some_pc h1
    simp only [hwi]
    cases hcc : s.cancelled.contains ctx with
    | true => exact .inr ⟨_, rfl, .of_fetchFail hwi hcc⟩
    | false => exact .inr ⟨_, rfl, .of_fetched hwi hcc⟩
  | none =>
  cases h2 : s.workers.findIdx? (fun w => w.pc == .waitSlot) with
  | some i =>
    obtain ⟨ctx, hh, hwi⟩ := findIdx_some_pc h2
    -- no worker holds a slot, so one is free
    have h0' : s.workers.countP isHold = 0 := by
      rw [List.countP_eq_zero]
      intro ⟨_, _, pc⟩ hw
      cases pc
      · exact Bool.false_ne_true
      · exact absurd rfl (findIdx_none_pc h1 hw)
      · exact absurd rfl (findIdx_none_pc h0 hw)
    have := hi.sem_eq; have := hi.inprog_eq
    exact .inr ⟨_, rfl, .of_acquire hwi (.inr (by omega))⟩
  | none =>
    have hw : s.workers = [] := by
      cases hws : s.workers with
      | nil => rfl
      | cons w ws =>
        have m : w ∈ s.workers := hws ▸ List.mem_cons_self
        obtain ⟨_, _, pc⟩ := w
        cases pc
        · exact absurd rfl (findIdx_none_pc h2 m)
        · exact absurd rfl (findIdx_none_pc h1 m)
        · exact absurd rfl (findIdx_none_pc h0 m)
    cases hp : s.pending with
    | nil => exact .inl ⟨rfl, hw, rfl⟩
    | cons b r => exact .inr ⟨_, rfl, .of_deliver hp⟩

theorem Move.stIn (hU : Closed net U) (hin : StIn U s) (m : Move net F s s') : StIn U s' := by
  refine ⟨m.forall_workers (P := fun _ k => k ∈ U) hin.workers
    (fun w hw hf l hl => hU _ (hin.workers w hw) hf l hl), ?_⟩
  rcases m.failed_eq with e | ⟨w, hw, _, e⟩ <;> rw [e]
  · exact hin.failed
  · intro k hk
    rcases List.mem_cons.1 hk with rfl | hk
    · exact hin.workers w hw
    · exact hin.failed k hk

/-- when only fetches of cancelled requests fail (the moves `pickMove` makes) and no worker of a cancelled request is left,
nothing fails: `failed` stays as it is -/
theorem Move.clean (m : Move net (s.cancelled.contains · = true) s s') (hcl : Clean s) :
    Clean s' ∧ s'.failed = s.failed := by
  refine ⟨?_, ?_⟩
  · unfold Clean; rw [m.cancelled_eq]
    exact m.forall_workers (P := fun c _ => s.cancelled.contains c = false) hcl (fun w hw _ _ _ => hcl w hw)
  · rcases m.failed_eq with e | ⟨w, hw, hc, _⟩
    · exact e
    · rw [hcl w hw] at hc; rcases hc with hc | hc <;> cases hc

theorem drain_spec (hc : 0 < c) (hU : Closed net U) : ∀ (n : Nat) (s : St), Inv net c s → StIn U s →
    pot U s ≤ n →
    Inv net c (drain net n s) ∧ StIn U (drain net n s) ∧ (drain net n s).workers = [] ∧
    (drain net n s).pending = [] ∧ (drain net n s).cancelled = s.cancelled ∧
    (∀ h, tracked s h → tracked (drain net n s) h) ∧ (Clean s → (drain net n s).failed = s.failed) := by
  intro n
  induction n with
  | zero =>
    intro s hi hin h
    rcases pickMove_spec hi hc with ⟨_, h1, h2⟩ | ⟨a, _, m⟩
    · exact ⟨hi, hin, h1, h2, rfl, fun _ h => h, fun _ => rfl⟩
    · exact absurd (m.pot_lt hi.toInvS hU hin) (by omega)
  | succ n ih =>
    intro s hi hin hp
    rcases pickMove_spec hi hc with ⟨hpm, h1, h2⟩ | ⟨a, hpm, m⟩ <;> rw [drain, hpm]
    · exact ⟨hi, hin, h1, h2, rfl, fun _ h => h, fun _ => rfl⟩
    · have hlt := m.pot_lt hi.toInvS hU hin
      obtain ⟨hI, hS, hw, hp, hcan, htr, hfail⟩ := ih (step net s a) (m.inv hi) (m.stIn hU hin) (by omega)
      refine ⟨hI, hS, hw, hp, hcan.trans m.cancelled_eq, fun h hh => htr h (m.tracked_mono h hh), ?_⟩
      intro hcl
      obtain ⟨c1, c2⟩ := m.clean hcl
      exact (hfail c1).trans c2

/-- `potB` with every hash of `U` fresh and every worker at the largest weight, `3·|U| + 3`: a bound
that does not mention the cancelled set -/
def fuelBound (U : List Nat) (s : St) : Nat :=
  3 * U.length + (3 * U.length + 3) * s.workers.length + s.pending.length

theorem wt_le (u : Nat) (canc : List Nat) (w : Worker) : wt u canc w ≤ 3 * u + 3 := by
  refine Nat.add_le_add ?_ (by cases w.pc <;> decide)
  split
  · exact Nat.le_refl _
  · exact Nat.zero_le _

theorem wsum_le (u : Nat) (canc : List Nat) (ws : List Worker) :
    wsum u canc ws ≤ (3 * u + 3) * ws.length := by
  induction ws with
  | nil => exact Nat.le_refl 0
  | cons w ws ih =>
    rw [wsum_cons, List.length_cons, Nat.mul_succ, Nat.add_comm]
    exact Nat.add_le_add ih (wt_le u canc w)

theorem potB_le_fuelBound (U : List Nat) (s : St) : potB U s ≤ fuelBound U s := by
  unfold potB fuelBound
  have := fresh_le_length U s
  have := wsum_le U.length s.cancelled s.workers
  omega

theorem potB_quiescent {U : List Nat} {s : St} (hw : s.workers = []) (hp : s.pending = []) :
    potB U s ≤ 3 * U.length := by
  unfold potB
  rw [hw, hp]
  exact Nat.mul_le_mul_left 3 (fresh_le_length U s)

/-- so `fuelBound U s < n` gives the `pot U s ≤ n` that `drain_spec` asks for -/
theorem pot_le_fuelBound (U : List Nat) (s : St) : pot U s ≤ fuelBound U s + 1 := by
  unfold pot
  have := potB_le_fuelBound U s
  have := busy_le s.workers
  omega

end Orbit.Repl
