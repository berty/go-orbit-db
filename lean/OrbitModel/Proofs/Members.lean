import OrbitModel.Proofs.LogValues
/-!
# Everything a traversal outputs is a member — with no hypothesis on the order

`values_sorted` (LogValues) needs `TieFree` and `ClockMono`: an honest universe.  An authorised
writer who forges clocks breaks both.  What survives without them is the *membership* half: every
element `traverse` outputs is a root or a child of an output, and roots (heads) and children (`get`
on `Entries`) are members.  So whatever the clocks, `Values()` never shows a non-member.
-/
namespace Trav
variable {α : Type} [DecidableEq α]
variable {lt : α → α → Bool} {children : α → List α}

theorem step_closed (P : α → Prop) (hkids : ∀ p, P p → ∀ c ∈ children p, P c) (s : St α)
    (hs : ∀ x ∈ s.stack, P x) (ho : ∀ x ∈ s.out, P x) :
    (∀ x ∈ (step lt children s).stack, P x) ∧ (∀ x ∈ (step lt children s).out, P x) := by
  cases hst : s.stack with
  | nil => rw [step_nil hst]; exact ⟨hs, ho⟩
  | cons e rest =>
    have he : P e := hs e (hst ▸ List.mem_cons_self)
    obtain ⟨new, hstep, _, hnew⟩ := step_cons (lt := lt) (children := children) hst
    rw [hstep]
    refine ⟨fun x hx => ?_, fun x hx => ?_⟩
    · rcases List.mem_append.mp ((mem_sortDesc ..).mp hx) with h | h
      · exact hkids e he x ((hnew x).mp h).1
      · exact hs x (hst ▸ List.mem_cons_of_mem _ h)
    · split at hx
      · exact ho x hx
      · exact (List.mem_append.mp hx).elim (ho x) fun h => List.mem_singleton.mp h ▸ he

theorem traverse_closed (P : α → Prop) (roots : List α) (hroots : ∀ r ∈ roots, P r)
    (hkids : ∀ p, P p → ∀ c ∈ children p, P c) (fuel : Nat) :
    ∀ x ∈ traverse lt children roots fuel, P x :=
  (run_induction (I := fun _ s => (∀ x ∈ s.stack, P x) ∧ ∀ x ∈ s.out, P x)
    ⟨fun x hx => hroots x ((mem_sortDesc ..).mp hx), fun _ hx => absurd hx List.not_mem_nil⟩
    (fun _ s h => step_closed P hkids s h.1 h.2) fuel).2

end Trav

namespace Orbit

/-- needs only that the heads are members, not `Inv`. A head that is no member fails it: the pinned tree's foreign
head (F4, `C04.pinned_foreign_entry_becomes_head`) -/
theorem traverseN_subset_of_heads (L : Log) (hh : ∀ e ∈ L.heads, e ∈ L.entries) (n : Nat) :
    ∀ x ∈ traverseN L n, x ∈ L.entries :=
  Trav.traverse_closed (fun x => x ∈ L.entries) L.heads hh (fun _ _ _ hc => (mem_children hc).1) n

theorem values_subset_of_heads (L : Log) (hh : ∀ e ∈ L.heads, e ∈ L.entries) :
    ∀ x ∈ values L, x ∈ L.entries :=
  fun x hx => traverseN_subset_of_heads L hh _ x (List.mem_reverse.mp hx)

end Orbit
