import OrbitModel.Proofs.JoinClosed
import OrbitModel.Proofs.AuthBatch
/-!
# `replicationLoadComplete` on a batch of single-entry logs   (C05)

The replicator (after the `fix:` commits) buffers one log per fetched entry, in completion order:
a child may come before its parent, and in a different log. Each log is then accepted or skipped on
its own, so the merged log is exactly the old entries plus the *acceptable* entries of the batch
(`joinAll_singles`). It is closed under `next` when the batch is parent-closed *among acceptable
entries* (`BatchParentsAcc`); an accepted child whose parent is rejected keeps a dangling link
(`CrashExample.rejected_parent_merged`). Every reported entry is in the log.
-/
namespace Orbit

def Singles (logs : List (OMap × OMap)) : Prop := ∀ p ∈ logs, ∃ e, p = ([e], [e])

def BatchParentsAcc (acl : Acl) (L : Log) (logs : List (OMap × OMap)) : Prop :=
  ∀ p ∈ logs, ∀ e ∈ p.1, acceptable acl.canAppend e = true → ∀ n ∈ e.next,
    has L.entries n = true ∨
    ∃ q ∈ logs, ∃ y ∈ q.1, y.hash = n ∧ acceptable acl.canAppend y = true

theorem joinAll_singles {acl : Acl} {U : List Entry} (hU : HashDet U) (hM : ClockMono U)
    {logs : List (OMap × OMap)} {L : Log} (hG : Good U L) (hB : BatchHonest U L.id logs) (hS : Singles logs)
    (x : Entry) : x ∈ (joinAll acl L logs).entries ↔
        x ∈ L.entries ∨ ∃ p ∈ logs, x ∈ p.1 ∧ acceptable acl.canAppend x = true := by
  refine ⟨joinAll_entries_from acl logs L x, ?_⟩
  rintro (h | ⟨p, hp, hx, hacc⟩)
  · exact (joinAll_extends acl logs L).mono x h
  · obtain ⟨e, rfl⟩ := hS p hp
    obtain rfl := List.mem_singleton.mp hx
    exact joinAll_accepts_mem hU acl logs L x ((hB _ hp).1.sub x hx) (joinAll_good hU hM hG hB).inv.sub hp
      ((hB _ hp).2 x hx) hacc

theorem joinAll_singles_closed {acl : Acl} {U : List Entry} (hU : HashDet U) (hM : ClockMono U)
    {logs : List (OMap × OMap)} {L : Log} (hG : Good U L) (hC : Closed L)
    (hB : BatchHonest U L.id logs) (hS : Singles logs) (hP : BatchParentsAcc acl L logs) :
    Closed (joinAll acl L logs) := by
  have hent := joinAll_singles (acl := acl) hU hM hG hB hS
  have hsub := (joinAll_extends acl logs L).mono
  intro x hx n hn
  rcases (hent x).mp hx with hL | ⟨p, hp, hxp, hacc⟩
  · exact has_mono hsub (hC x hL n hn)
  · rcases hP p hp x hxp hacc n hn with h | ⟨q, hq, y, hy, hyn, hyacc⟩
    · exact has_mono hsub h
    · exact (has_iff _ _).mpr ⟨y, (hent y).mpr (Or.inr ⟨q, hq, hy, hyacc⟩), hyn⟩

theorem joinedEntries_singles {acl : Acl} {U : List Entry} (hU : HashDet U) (hM : ClockMono U)
    (logs : List (OMap × OMap)) (L : Log) (hG : Good U L) (hB : BatchHonest U L.id logs) (hS : Singles logs) :
    ∀ x ∈ joinedEntries acl L logs, x ∈ (joinAll acl L logs).entries := by
  have h := (joinAll_induction_good (acl := acl) (acc := []) hU hM hB (P := fun L' acc => ∀ x ∈ acc, x ∈ L'.entries)
    (fun p hp L₁ L₂ acc hG₁ hA hlid hacc hj x hx => by
      obtain ⟨e, rfl⟩ := hS p hp
      rcases List.mem_append.mp hx with h | h
      · exact join_mono hj x (hacc x h)
      · exact join_heads_mem hU hG₁.inv hA hlid hj x h) hG (fun _ h => nomatch h)).2
  rwa [List.nil_append] at h

end Orbit
