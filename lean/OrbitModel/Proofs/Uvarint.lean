import OrbitModel.Model.Codec
/-!
# uvarint length prefix and the frame guard of `directchannel` (C12, frame part; C20 framing)
-/
namespace Orbit.Codec

theorem putUvarint_bytes (fuel n : Nat) : ∀ b ∈ putUvarint fuel n, b < 256 := by
  induction fuel generalizing n with
  | zero => simp [putUvarint]
  | succ fuel ih =>
    rw [putUvarint]
    split
    · simp only [List.mem_singleton, forall_eq]; omega
    · simp only [List.forall_mem_cons]; exact ⟨by omega, ih _⟩

theorem encodeUvarint_bytes (n : Nat) : ∀ b ∈ encodeUvarint n, b < 256 := putUvarint_bytes 10 n

theorem putUvarint_length_le (fuel n : Nat) : (putUvarint fuel n).length ≤ fuel := by
  induction fuel generalizing n with
  | zero => simp [putUvarint]
  | succ fuel ih =>
    unfold putUvarint
    split
    · simp
    · have := ih (n / 128); simp only [List.length_cons]; omega

/-- the loop's shift and accumulator are bookkeeping: read at 0, 0 and place the value afterwards -/
theorem readUvarint_shift (fuel shift acc : Nat) (bs : List Nat) :
    readUvarint fuel shift acc bs =
      (readUvarint fuel 0 0 bs).map (fun p => (acc + p.1 * 2 ^ shift, p.2)) := by
  induction fuel generalizing shift acc bs with
  | zero => rfl
  | succ f ih =>
    cases bs with
    | nil => rfl
    | cons b rest =>
      by_cases hb : b < 128
      · simp only [readUvarint, if_pos hb]; split <;> simp
      · -- both sides read the rest at 0, 0 (`ih` twice): acc + (b-128)·2^shift + v·2^(shift+7) on either side
        rw [readUvarint, if_neg hb, ih, readUvarint, if_neg hb, ih (0 + 7), Option.map_map]
        simp only [Function.comp_def, Nat.pow_zero, Nat.mul_one, Nat.zero_add, Nat.pow_add, Nat.add_mul,
          Nat.add_assoc, Nat.mul_assoc, Nat.mul_comm (2 ^ 7)]

/-- with `readUvarint_last`: `ReadUvarint` as a structural recursion on the bytes, shift and accumulator gone -/
theorem readUvarint_cont (f b : Nat) (rest : List Nat) (hb : ¬ b < 128) :
    readUvarint (f + 1) 0 0 (b :: rest) =
      (readUvarint f 0 0 rest).map (fun p => (b - 128 + 128 * p.1, p.2)) := by
  rw [readUvarint.eq_3, if_neg hb, readUvarint_shift f (0 + 7)]
  simp only [Nat.pow_zero, Nat.mul_one, Nat.zero_add, Nat.reducePow, Nat.mul_comm 128]

theorem readUvarint_last (f b : Nat) (rest : List Nat) (hb : b < 128) :
    readUvarint (f + 1) 0 0 (b :: rest) = if f = 0 ∧ b > 1 then none else some (b, rest) := by
  simp [readUvarint, hb]

/-- `n < 2 * 128 ^ fuel`: the last of the `fuel + 1` bytes may only be 0 or 1 -/
theorem readUvarint_putUvarint (fuel n : Nat) (rest : List Nat) (hn : n < 2 * 128 ^ fuel) :
    readUvarint (fuel + 1) 0 0 (putUvarint (fuel + 1) n ++ rest) = some (n, rest) := by
  induction fuel generalizing n with
  | zero =>
    have : n < 128 := by omega
    rw [putUvarint, if_pos this, List.singleton_append, readUvarint_last _ _ _ this, if_neg (by omega)]
  | succ fuel ih =>
    rw [putUvarint]
    split
    · rw [List.singleton_append, readUvarint_last _ _ _ ‹_›, if_neg (by omega)]
    · rw [List.cons_append, readUvarint_cont _ _ _ (Nat.not_lt.2 (Nat.le_add_left ..)),
        ih _ (Nat.div_lt_of_lt_mul (by omega)), Option.map_some, Nat.add_sub_cancel, Nat.mod_add_div]

theorem uvarint_roundtrip (n : Nat) (hn : n < 2 ^ 64) (rest : List Nat) :
    decodeUvarint (encodeUvarint n ++ rest) = some (n, rest) :=
  readUvarint_putUvarint 9 n rest (by omega)

theorem readUvarint_bound (fuel : Nat) (bs : List Nat) (v : Nat) (rest : List Nat)
    (hb : ∀ b ∈ bs, b < 256) (h : readUvarint (fuel + 1) 0 0 bs = some (v, rest)) : v < 2 * 128 ^ fuel := by
  induction fuel generalizing bs v with
  | zero =>
    cases bs with
    | nil => cases h
    | cons b bs =>
      by_cases hlt : b < 128
      · rw [readUvarint_last _ _ _ hlt] at h; split at h <;> simp at h; omega
      · rw [readUvarint_cont _ _ _ hlt] at h; cases h
  | succ fuel ih =>
    cases bs with
    | nil => cases h
    | cons b bs =>
      have hq : 0 < 128 ^ fuel := Nat.pow_pos (by omega)
      obtain ⟨hb0, hbs⟩ := List.forall_mem_cons.1 hb
      by_cases hlt : b < 128
      · rw [readUvarint_last _ _ _ hlt, if_neg (by omega)] at h; cases h; omega
      · rw [readUvarint_cont _ _ _ hlt] at h
        obtain ⟨⟨v', r'⟩, h', hv⟩ := Option.map_eq_some_iff.1 h
        cases hv
        have := ih bs v' hbs h'
        omega

/-- hence the `n ≥ 2^64` branch of `readFrame` is there for totality on `Nat` only -/
theorem decodeUvarint_lt (bs : List Nat) (hb : ∀ b ∈ bs, b < 256) (v : Nat) (rest : List Nat)
    (h : decodeUvarint bs = some (v, rest)) : v < 2 ^ 64 := by
  have := readUvarint_bound 9 bs v rest hb h
  omega

theorem frameGuard_accept (len64 : BitVec 64) (n : Nat) (h : frameGuard len64 = .accept n) :
    (n : Int) ≤ maxFrame ∧ n = len64.toNat := by
  unfold frameGuard at h
  split at h
  · cases h
  · injection h with h; subst h; omega

theorem frameGuard_never_panics (len64 : BitVec 64) : frameGuard len64 ≠ .panic := by
  unfold frameGuard; split <;> simp

theorem frameGuard_refused_iff (len64 : BitVec 64) :
    frameGuard len64 = .refused ↔ len64.toNat > 4 * 1024 * 1024 := by
  unfold frameGuard maxFrame; split <;> simp <;> omega

theorem frameGuardPinned_panics : frameGuardPinned (BitVec.ofNat 64 (2 ^ 63)) = .panic := by decide

theorem frameGuard_eq_pinned (len64 : BitVec 64) (h : len64.toNat < 2 ^ 63) :
    frameGuard len64 = frameGuardPinned len64 := by
  have hi : len64.toInt = (len64.toNat : Int) := BitVec.toInt_eq_toNat_of_lt (by omega)
  simp only [frameGuardPinned, frameGuard, hi, Int.toNat_natCast,
    if_neg (Int.not_lt.2 (Int.natCast_nonneg _))]

theorem frameGuardPinned_panic_iff (len64 : BitVec 64) :
    frameGuardPinned len64 = .panic ↔ len64.toNat ≥ 2 ^ 63 := by
  constructor
  · intro hp
    apply Decidable.byContradiction
    intro h
    exact frameGuard_never_panics len64 (frameGuard_eq_pinned len64 (by omega) ▸ hp)
  · intro h
    have hneg : len64.toInt < 0 := BitVec.toInt_neg_iff.2 (by omega)
    rw [frameGuardPinned, if_neg (by unfold maxFrame; omega), if_pos hneg]

theorem frameGuard_refuses_where_pinned_panics (len64 : BitVec 64) (h : len64.toNat ≥ 2 ^ 63) :
    frameGuard len64 = .refused ∧ frameGuardPinned len64 = .panic :=
  ⟨(frameGuard_refused_iff len64).2 (by omega), (frameGuardPinned_panic_iff len64).2 h⟩

theorem readFrame_encode (n : Nat) (hn : n < 2 ^ 64) (rest : List Nat) :
    readFrame (encodeUvarint n ++ rest) =
      if n > 4 * 1024 * 1024 ∨ rest.length < n then none else some (rest.take n) := by
  unfold readFrame frameGuard maxFrame
  simp only [uvarint_roundtrip n hn, BitVec.toNat_ofNat, Nat.mod_eq_of_lt hn, if_neg (Nat.not_le.2 hn)]
  by_cases h : n > 4 * 1024 * 1024
  · rw [if_pos (by omega), if_pos (.inl h)]
  · rw [if_neg (by omega)]; simp only [h, false_or]

theorem frame_roundtrip (payload rest : List Nat) (h : payload.length ≤ 4 * 1024 * 1024) :
    readFrame (writeFrame payload ++ rest) = some payload := by
  rw [writeFrame, List.append_assoc, readFrame_encode _ (by omega), if_neg (by simp; omega),
    List.take_left]

/-- that the guard answers `refused`, so that nothing is allocated, is `frameGuard_refused_iff` -/
theorem oversize_refused (n : Nat) (hbig : n > 4 * 1024 * 1024) (hn : n < 2 ^ 64) (rest : List Nat) :
    readFrame (encodeUvarint n ++ rest) = none := by
  rw [readFrame_encode n hn, if_pos (.inl hbig)]

/-- each stream carries one frame: the refused header and the well-formed frame are on different streams -/
theorem oversize_refused_then_ok (n : Nat) (hbig : n > 4 * 1024 * 1024) (hn : n < 2 ^ 64)
    (junk payload rest : List Nat) (h : payload.length ≤ 4 * 1024 * 1024) :
    readFrame (encodeUvarint n ++ junk) = none ∧ readFrame (writeFrame payload ++ rest) = some payload :=
  ⟨oversize_refused n hbig hn junk, frame_roundtrip payload rest h⟩

example : encodeUvarint 300 = [172, 2] := by decide
example : decodeUvarint [172, 2, 7] = some (300, [7]) := by decide
example : (encodeUvarint (2 ^ 64 - 1)).length = 10 := by decide
example : decodeUvarint (encodeUvarint (2 ^ 64 - 1) ++ [9]) = some (2 ^ 64 - 1, [9]) := by decide
-- overflow: a 10th byte above 1, and an 11-byte encoding
example : decodeUvarint [255, 255, 255, 255, 255, 255, 255, 255, 255, 2] = none := by decide
example : decodeUvarint [128, 128, 128, 128, 128, 128, 128, 128, 128, 128, 1] = none := by decide
example : decodeUvarint [128] = none := by decide
example : readFrame (writeFrame [1, 2, 3] ++ [4, 5]) = some [1, 2, 3] := by decide
example : readFrame [5, 1, 2] = none := by decide
example : readFrame (encodeUvarint (2 ^ 63) ++ [1, 2, 3]) = none := by decide
example : frameGuard (BitVec.ofNat 64 (2 ^ 63)) = .refused := by decide
example : frameGuard 3#64 = .accept 3 := by decide
example : frameGuardPinned 3#64 = .accept 3 := by decide

end Orbit.Codec
