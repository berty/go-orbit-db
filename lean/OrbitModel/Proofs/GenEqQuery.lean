import OrbitModel.Generated.GenQuery
import OrbitModel.Model.Index
/-!
# Regenerated Go fragment = hand-written model (tie 2); one small module per fragment, so that a
change to one Go function only stops the theorems tied to it
-/
namespace Orbit

/-- the amount normalisation regenerated from `eventlogstore.query` is the model's `normAmount`; Go's
`options.Amount *int` reaches the fragment as the pair (set, value) -/
theorem gen_normAmount (a : Option Int) (len : Nat) :
    Gen.genNormAmount a.isSome (a.getD 0) len = (normAmount a len : Int) := by
  unfold Gen.genNormAmount normAmount
  cases a with
  | none => simp
  | some x =>
    simp only [Option.isSome_some, Option.getD_some, if_true]
    by_cases h0 : x = 0
    · simp [h0]
    · by_cases h1 : x > -1
      · simp [h0, h1]; omega
      · simp [h0, h1]

end Orbit
