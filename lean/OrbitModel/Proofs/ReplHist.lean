import OrbitModel.Proofs.ReplLive
/-!
# Replicator: what holds after every history (`Inv`, `StIn`, the cancelled set)
-/
namespace Orbit.Repl

variable {net : Nat → Info} {c : Nat} {s : St} {U : List Nat}

theorem Inv.init (net : Nat → Info) (c : Nat) : Inv net c { sem := c } where
  inprog_eq := rfl
  keys_nodup := List.nodup_nil
  w_nodup := List.nodup_nil
  w_task := by intro w hw; cases hw
  task_w := by intro h t ht; cases ht
  queue_eq := rfl
  pend_fetched := by intro b hb; cases hb
  buf_got := by intro h hh; cases hh
  fin_buf := by intro w hw; cases hw
  buf_nodup := List.nodup_nil
  log_nodup := List.nodup_nil
  log_ok := by intro h hh; cases hh
  fetched_in := by intro h hh; cases hh
  closure := by
    rintro h (hh | ⟨w, hw, _⟩)
    · cases hh
    · cases hw
  sem_eq := rfl
  buf_idle := by intro hb; exact absurd rfl hb

theorem Inv.run (h : Inv net c s) (acts : List Act) : Inv net c (run net s acts) :=
  List.foldlRecOn acts _ h fun _ hs a _ => inv_step hs a

theorem inv_reachable (net : Nat → Info) (c : Nat) (acts : List Act) :
    Inv net c (run net { sem := c } acts) := (Inv.init net c).run acts

def ActsIn (U : List Nat) (acts : List Act) : Prop :=
  ∀ a ∈ acts, ∀ ctx hs, a = Act.load ctx hs → ∀ h ∈ hs, h ∈ U

theorem StIn.step (hU : Closed net U) (hin : StIn U s) (a : Act)
    (ha : ∀ ctx hs, a = Act.load ctx hs → ∀ h ∈ hs, h ∈ U) : StIn U (step net s a) := by
  rcases step_spec net s a with e | m | ⟨ctx, hs, rfl⟩ | ⟨ctx, rfl⟩
  · rw [e]; exact hin
  · exact m.stIn hU hin
  · exact hin.load ctx (ha ctx hs rfl)
  · exact ⟨hin.workers, hin.failed⟩

theorem StIn.run (hU : Closed net U) (hin : StIn U s) {acts : List Act} (ha : ActsIn U acts) :
    StIn U (run net s acts) :=
  List.foldlRecOn acts _ hin fun _ hs a hm => hs.step hU a (ha a hm)

theorem StIn.init (U : List Nat) (c : Nat) : StIn U { sem := c } :=
  ⟨fun _ h => absurd h List.not_mem_nil, fun _ h => absurd h List.not_mem_nil⟩

theorem stIn_reachable (hU : Closed net U) {acts : List Act} (ha : ActsIn U acts) :
    StIn U (run net { sem := c } acts) :=
  StIn.run hU (.init U c) ha

theorem step_cancelled (a : Act) (ha : ∀ ctx, a ≠ Act.cancel ctx) :
    (step net s a).cancelled = s.cancelled := by
  rcases step_spec net s a with e | m | ⟨ctx, hs, rfl⟩ | ⟨ctx, rfl⟩
  · rw [e]
  · exact m.cancelled_eq
  · exact load_cancelled ..
  · exact absurd rfl (ha ctx)

theorem clean_of_no_cancel {acts : List Act} (ha : ∀ ctx, Act.cancel ctx ∉ acts) :
    (run net { sem := c } acts).cancelled = [] ∧ Clean (run net { sem := c } acts) := by
  have h0 : (run net { sem := c } acts).cancelled = [] :=
    List.foldlRecOn (motive := fun s => s.cancelled = []) acts (step net) rfl fun s hs a hm =>
      (step_cancelled a fun ctx e => ha ctx (e ▸ hm)).trans hs
  exact ⟨h0, fun w _ => by rw [h0]; rfl⟩

def Act.headsIn (U : List Nat) : Act → Bool
  | .load _ hs => hs.all (fun h => U.contains h)
  | _ => true

def Act.isCancel : Act → Bool
  | .cancel _ => true
  | _ => false

theorem actsIn_of_all {acts : List Act} (h : acts.all (Act.headsIn U) = true) : ActsIn U acts := by
  intro a ha ctx hs e k hk
  have := List.all_eq_true.1 h a ha
  subst e
  simp only [Act.headsIn, List.all_eq_true] at this
  simpa using this k hk

theorem noCancel_of_all {acts : List Act} (h : acts.all (fun a => !a.isCancel) = true) :
    ∀ ctx, Act.cancel ctx ∉ acts := by
  intro ctx hm
  have := List.all_eq_true.1 h _ hm
  simp [Act.isCancel] at this

end Orbit.Repl
