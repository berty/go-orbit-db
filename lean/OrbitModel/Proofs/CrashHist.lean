import OrbitModel.Proofs.Durable
import OrbitModel.Proofs.JoinAll
/-!
# Valid store histories and the invariants of their traces   (C05)

`ValidHist acl U id ops L`: `ops` is the sequence of effectful store operations of a replica started on
the empty log of id `id`, and `L` is its log afterwards. Operations without effects
(denied writes) change `L` and not `ops`. `replicationLoadComplete` always has effects: it skips the
rejected logs, rewrites `_remoteHeads` and reports the entries of the logs it joined.
At every operation boundary the log is good, closed under `next`, and every entry has its block on disk
(`HistInv`); and every prefix of the trace has a durable log (`PrefOk`).
-/
namespace Orbit

def trace (ops : List SOp) : List Eff := ops.flatMap SOp.effects

theorem trace_snoc (ops : List SOp) (o : SOp) : trace (ops ++ [o]) = trace ops ++ o.effects := by
  simp [trace]

/-- what the replicator guarantees about the logs it hands to `replicationLoadComplete`, and what
`Join` did with them (`L'` is the log after the joins) -/
structure BatchOk (U : List Entry) (tr : List Eff) (L : Log) (logs : List (OMap × OMap)) (L' : Log) :
    Prop where
  /-- honest logs carrying our log id -/
  honest  : BatchHonest U L.id logs
  /-- every block was fetched (or written) earlier in the trace -/
  fetched : ∀ p ∈ logs, ∀ e ∈ p.1, Eff.block e.hash ∈ tr
  /-- the batch is parent-closed among the entries that are merged: each `next` link of a merged
  entry names an entry held after the joins. Since rejected logs are skipped this is a genuine
  restriction: it excludes a child that is accepted while the log bringing its parent is rejected
  (`CrashExample.rejected_parent_*` shows what happens then). `CrashCor` derives it from conditions
  on the batch alone. -/
  parents : ∀ p ∈ logs, ∀ e ∈ p.1, e ∈ L'.entries → ∀ n ∈ e.next, has L'.entries n = true

inductive ValidHist (acl : Acl) (U : List Entry) (id : Nat) : List SOp → Log → Prop
  | nil : ValidHist acl U id [] (Log.empty id)
  /-- `AddOperation` allowed by the access controller -/
  | write {ops : List SOp} {L : Log} (mk : Nat → List Nat → Entry) : ValidHist acl U id ops L →
      acl.canAppend (mk (appendTime L) (appendNext L)) = true → WriteOk acl U L mk →
      ValidHist acl U id (ops ++ [.write (mk (appendTime L) (appendNext L))]) (append acl.canAppend L mk).1
  /-- `AddOperation` denied: the clock moves, nothing is written -/
  | denied {ops : List SOp} {L : Log} (mk : Nat → List Nat → Entry) : ValidHist acl U id ops L →
      acl.canAppend (mk (appendTime L) (appendNext L)) = false →
      ValidHist acl U id ops (append acl.canAppend L mk).1
  /-- the replicator stored a block (any block, at any time) -/
  | fetched {ops : List SOp} {L : Log} (e : Entry) : ValidHist acl U id ops L →
      ValidHist acl U id (ops ++ [.fetched e]) L
  /-- `replicationLoadComplete`: the rejected logs are skipped, `_remoteHeads` is rewritten, the
  entries of the joined logs are reported; all the reported entries are in the log -/
  | merged {ops : List SOp} {L : Log} (logs : List (OMap × OMap)) (L' : Log) : ValidHist acl U id ops L →
      BatchOk U (trace ops) L logs L' → joinAll acl L logs = L' →
      (∀ e ∈ joinedEntries acl L logs, e ∈ L'.entries) →
      ValidHist acl U id
        (ops ++ [.merged (joinedEntries acl L logs) ((sortedHeads L').map (·.hash))]) L'

def PrefOk (U : List Entry) (L : Log) (T : List Eff) : Prop :=
  ∀ p, p <+: T → ∃ D, Durable U p D ∧ ∀ e ∈ D.entries, e ∈ L.entries

theorem PrefOk.snoc {U : List Entry} {L L' D : Log} {T : List Eff} {e : Eff} (h : PrefOk U L T)
    (hsub : ∀ e ∈ L.entries, e ∈ L'.entries) (hD : Durable U (T ++ [e]) D)
    (hDL : ∀ x ∈ D.entries, x ∈ L'.entries) : PrefOk U L' (T ++ [e]) := by
  intro p hp
  rcases List.prefix_concat_iff.mp hp with rfl | hp
  · exact ⟨D, hD, hDL⟩
  · obtain ⟨D₀, hD₀, hDL₀⟩ := h p hp
    exact ⟨D₀, hD₀, fun e he => hsub e (hDL₀ e he)⟩

structure HistInv (U : List Entry) (id : Nat) (T : List Eff) (L : Log) : Prop where
  good   : Good U L
  lid    : L.id = id
  closed : Closed L
  blocks : ∀ e ∈ L.entries, Eff.block e.hash ∈ T

theorem joinedEntries_sub (acl : Acl) : ∀ (logs : List (OMap × OMap)) (L : Log),
    ∀ e ∈ joinedEntries acl L logs, ∃ p ∈ logs, e ∈ p.1 := fun logs L =>
  joinAll_induction₂ acl (L := L) (P := fun _ acc => ∀ e ∈ acc, ∃ p ∈ logs, e ∈ p.1) (acc := [])
    (fun p hp _ _ _ hK _ e he => (List.mem_append.mp he).elim (hK e) (fun h => ⟨p, hp, h⟩))
    (fun _ h => nomatch h)

theorem HistInv.batch {acl : Acl} {U : List Entry} (hU : HashDet U) (hM : ClockMono U) {id : Nat}
    {T : List Eff} {L L' : Log} {logs : List (OMap × OMap)} (h : HistInv U id T L)
    (hB : BatchOk U T L logs L') (hj : joinAll acl L logs = L') :
    HistInv U id T L' ∧ ∀ e ∈ L.entries, e ∈ L'.entries := by
  subst hj
  have hext := joinAll_extends acl logs L
  have hfrom := joinAll_entries_from acl logs L
  refine ⟨⟨joinAll_good hU hM h.good hB.honest, hext.id.trans h.lid, fun e he n hn => ?_, fun e he => ?_⟩,
    hext.mono⟩
  · rcases hfrom e he with hL | ⟨p, hp, hep, _⟩
    · exact has_mono hext.mono (h.closed e hL n hn)
    · exact hB.parents p hp e hep he n hn
  · rcases hfrom e he with hL | ⟨p, hp, hep, _⟩
    · exact h.blocks e hL
    · exact hB.fetched p hp e hep

theorem HistInv.write {acl : Acl} {U : List Entry} (hU : HashDet U) (hM : ClockMono U) {id : Nat}
    {T : List Eff} {L : Log} {mk : Nat → List Nat → Entry} (h : HistInv U id T L)
    (hcan : acl.canAppend (mk (appendTime L) (appendNext L)) = true) (hw : WriteOk acl U L mk) :
    let e := mk (appendTime L) (appendNext L)
    let L' := (append acl.canAppend L mk).1
    Good U L' ∧ L'.id = id ∧ Closed L' ∧ L'.entries = L.entries ++ [e] ∧
      CoveredBy L' [e.hash] := by
  intro e L'
  obtain ⟨_, hnext, _, hfresh⟩ := hw hcan
  have hent : L'.entries = L.entries ++ [e] := append_ok_entries acl.canAppend L mk hcan hfresh
  have hstep := writeOk_step hw
  refine ⟨good_step hU hM h.good hstep, (step_id hstep).trans h.lid, ?_, hent,
    append_covers hM acl.canAppend L mk h.good.inv hnext hfresh hcan⟩
  have hsub : ∀ x ∈ L.entries, x ∈ L'.entries := fun x hx => by
    rw [hent]; exact List.mem_append_left _ hx
  intro x hx n hn
  rw [hent] at hx
  rcases List.mem_append.mp hx with hx | hx
  · exact has_mono hsub (h.closed x hx n hn)
  · rw [List.mem_singleton.mp hx] at hn
    have hn' : n ∈ appendNext L := hnext ▸ hn
    obtain ⟨y, hy, hyn⟩ := (mem_appendNext L n).mp hn'
    exact (has_iff _ _).mpr ⟨y, hsub y (h.good.inv.heads_sub y hy), hyn⟩

end Orbit
