import OrbitModel.Proofs.ReplStep
/-!
# Replicator: every move of the deterministic scheduler decreases a potential

`pot U s = 3·(fresh hashes of U) + Σ worker weights + #pending + busy`, where a waiting worker
weighs 3, a fetching one 2, a finishing one 1, a worker whose context is cancelled weighs `3·|U|` more
(its failure makes its hash fresh again), and `busy` is 1 while a worker is left: it pays for the
`LoadEnd` that the last worker's `idle()` may emit (`idle()` fires only when every task is `fetched`,
that is when no worker is left). `U` is any finite set of hashes closed under the links of this
log's entries.
-/
namespace Orbit.Repl

def Closed (net : Nat → Info) (U : List Nat) : Prop :=
  ∀ h ∈ U, (net h).foreign = false → ∀ l ∈ (net h).links, l ∈ U

/-- the hashes the replicator is working on or will retry are in `U` -/
structure StIn (U : List Nat) (s : St) : Prop where
  workers : ∀ w ∈ s.workers, w.item ∈ U
  failed : ∀ h ∈ s.failed, h ∈ U

def fresh (U : List Nat) (s : St) : Nat := U.countP (isFresh s)

/-- the moves a worker has before it (`acquire`, `fetched`, `finish`) -/
def pcw : PC → Nat
  | .waitSlot => 3
  | .fetching => 2
  | .finishing => 1

def wt (u : Nat) (canc : List Nat) (w : Worker) : Nat := (if canc.contains w.ctx then 3 * u else 0) + pcw w.pc
def wsum (u : Nat) (canc : List Nat) (ws : List Worker) : Nat := (ws.map (wt u canc)).sum

/-- the part of the potential that a `Load` with a live context does not increase -/
def potB (U : List Nat) (s : St) : Nat :=
  3 * fresh U s + wsum U.length s.cancelled s.workers + s.pending.length
def busy (ws : List Worker) : Nat := if ws.isEmpty then 0 else 1
def pot (U : List Nat) (s : St) : Nat := potB U s + busy s.workers

theorem busy_le (ws : List Worker) : busy ws ≤ 1 := by unfold busy; split <;> omega
theorem busy_mid (l1 l2 : List Worker) (w : Worker) : busy (l1 ++ w :: l2) = 1 := by
  cases l1 <;> rfl

theorem fresh_le_length (U : List Nat) (s : St) : fresh U s ≤ U.length := List.countP_le_length

theorem fresh_mono {U : List Nat} {s s' : St} (hl : ∀ k ∈ s.log, k ∈ s'.log)
    (ht : ∀ k, task s k ≠ none → task s' k ≠ none) : fresh U s' ≤ fresh U s := by
  apply List.countP_mono_left
  intro k _ hk
  rw [isFresh_iff] at hk ⊢
  exact ⟨fun e => hk.1 (hl k e), Decidable.by_contra fun e => ht k e hk.2⟩

theorem countP_add_le {U nw : List Nat} {p : Nat → Bool} (hnd : nw.Nodup)
    (hnew : ∀ k ∈ nw, k ∈ U ∧ p k = true) :
    U.countP (fun k => !nw.contains k && p k) + nw.length ≤ U.countP p := by
  have h1 := List.countP_eq_countP_filter_add U p (fun k => nw.contains k)
  have h2 : nw.length ≤ (U.filter fun k => nw.contains k).countP p := by
    rw [List.countP_eq_length_filter]
    exact hnd.length_le_of_subset fun k hk =>
      List.mem_filter.2 ⟨List.mem_filter.2 ⟨(hnew k hk).1, by simpa using hk⟩, (hnew k hk).2⟩
  rw [List.countP_filter (q := fun k => !nw.contains k)] at h1
  rw [show (fun k => !nw.contains k && p k) = fun k => p k && !nw.contains k from
    funext fun _ => Bool.and_comm ..]
  omega

theorem fresh_enqd {U nw : List Nat} {s : St} (ctx : Nat) (hnd : nw.Nodup)
    (hnew : ∀ k ∈ nw, k ∈ U ∧ isFresh s k = true) : fresh U (enqd s ctx nw) + nw.length ≤ fresh U s := by
  unfold fresh
  rw [isFresh_enqd]
  exact countP_add_le hnd hnew

theorem wsum_append (u : Nat) (canc : List Nat) (a b : List Worker) :
    wsum u canc (a ++ b) = wsum u canc a + wsum u canc b := by
  simp [wsum, List.sum_append]

theorem wsum_cons (u : Nat) (canc : List Nat) (w : Worker) (b : List Worker) :
    wsum u canc (w :: b) = wt u canc w + wsum u canc b := rfl

theorem wsum_mid (u : Nat) (canc : List Nat) (l1 l2 : List Worker) (w : Worker) :
    wsum u canc (l1 ++ w :: l2) = wsum u canc (l1 ++ l2) + wt u canc w := by
  rw [wsum_append, wsum_cons, wsum_append]; omega

theorem wsum_spawn (u : Nat) (canc : List Nat) (ctx : Nat) (nw : List Nat)
    (hc : canc.contains ctx = false) : wsum u canc (spawn ctx nw) = 3 * nw.length := by
  induction nw with
  | nil => rfl
  | cons a nw ih =>
    rw [show spawn ctx (a :: nw) = ⟨ctx, a, .waitSlot⟩ :: spawn ctx nw from rfl, wsum_cons, ih, wt, hc,
      List.length_cons, Nat.mul_succ, Nat.add_comm]; rfl

/-- each hash queued is no longer fresh, which pays for its waiting worker (3, its request being live) -/
theorem potB_enqd_le {U nw : List Nat} {s : St} {ctx : Nat} (hc : s.cancelled.contains ctx = false)
    (hnd : nw.Nodup) (hnew : ∀ k ∈ nw, k ∈ U ∧ isFresh s k = true) : potB U (enqd s ctx nw) ≤ potB U s := by
  have := fresh_enqd ctx hnd hnew
  unfold potB
  rw [enqd_workers, enqd_cancelled, enqd_pending, wsum_append, wsum_spawn _ _ _ _ hc]
  omega

/-- while a worker is left `busy` stays 1 -/
theorem pot_enqd_le {U nw : List Nat} {s : St} {ctx : Nat} {l1 l2 : List Worker} {w : Worker}
    (hw : s.workers = l1 ++ w :: l2) (hc : s.cancelled.contains ctx = false)
    (hnd : nw.Nodup) (hnew : ∀ k ∈ nw, k ∈ U ∧ isFresh s k = true) : pot U (enqd s ctx nw) ≤ pot U s := by
  unfold pot
  rw [enqd_workers, hw, List.append_assoc, List.cons_append, busy_mid, busy_mid]
  exact Nat.add_le_add_right (potB_enqd_le hc hnd hnew) 1

-- `flush` stays folded (see `Proofs/ReplStep`)
attribute [local irreducible] flush

theorem flush_pending_le (s : St) : (flush s).pending.length ≤ s.pending.length + 1 := by
  rcases flush_cases s with e | ⟨_, _, e⟩ <;> rw [e]
  · omega
  · simp

theorem done_pending_of_unfinished {s : St} {h k : Nat} {t : TS} (hk : task s k = some t)
    (hne : t ≠ .fetched) (hkh : h ≠ k) : (done s h).pending = s.pending := by
  show (flush (donePre s h)).pending = s.pending
  rcases flush_cases (donePre s h) with e | ⟨hidle, _, _⟩
  · rw [e]; rfl
  · have ht : task (donePre s h) k = some t := by
      rw [show task (donePre s h) k = _ from task_setTask s h .fetched k, if_neg hkh]; exact hk
    rw [isIdle_false_of_task ht hne] at hidle; cases hidle

variable {net : Nat → Info} {F : Nat → Prop} {c : Nat} {s s' : St} {U : List Nat}

theorem pot_lt_of_leave {l1 l2 : List Worker} {w : Worker} (hw : s.workers = l1 ++ w :: l2)
    (hw' : s'.workers = l1 ++ l2) (hc : s'.cancelled = s.cancelled)
    (h : 3 * fresh U s' + (s'.pending.length + busy (l1 ++ l2)) <
      3 * fresh U s + wt U.length s.cancelled w + (s.pending.length + 1)) : pot U s' < pot U s := by
  unfold pot potB
  rw [hc, hw, hw', wsum_mid, busy_mid]
  omega

/-- a worker of a cancelled request leaves before it has fetched: its hash may be fresh again and a
`LoadEnd` may be emitted; the `3·|U|` it weighs more pays for the first, one of its moves not made for the
second -/
theorem pot_lt_of_abort {l1 l2 : List Worker} {w : Worker} (hw : s.workers = l1 ++ w :: l2)
    (hw' : s'.workers = l1 ++ l2) (hc : s'.cancelled = s.cancelled)
    (hcc : s.cancelled.contains w.ctx = true) (hpc : 2 ≤ pcw w.pc)
    (hp : s'.pending.length ≤ s.pending.length + 1) : pot U s' < pot U s := by
  refine pot_lt_of_leave hw hw' hc ?_
  have := fresh_le_length U s'
  have := busy_le (l1 ++ l2)
  rw [wt, if_pos hcc]
  omega

theorem pot_lt_of_advance {l1 l2 : List Worker} {ctx hh : Nat} {pc pc' : PC}
    (hw : s.workers = l1 ++ ⟨ctx, hh, pc⟩ :: l2) (hw' : s'.workers = l1 ++ ⟨ctx, hh, pc'⟩ :: l2)
    (hc : s'.cancelled = s.cancelled) (hp : s'.pending = s.pending) (hf : fresh U s' ≤ fresh U s)
    (hpc : pcw pc' < pcw pc) : pot U s' < pot U s := by
  unfold pot potB
  rw [hc, hp, hw, hw', wsum_mid, wsum_mid, busy_mid, busy_mid]
  have : wt U.length s.cancelled ⟨ctx, hh, pc'⟩ < wt U.length s.cancelled ⟨ctx, hh, pc⟩ :=
    Nat.add_lt_add_left hpc _
  omega

theorem Move.pot_lt (hi : InvS net s) (hU : Closed net U) (hin : StIn U s)
    (m : Move net (s.cancelled.contains · = true) s s') :
    pot U s' < pot U s := by
  cases m with
  | fail l1 l2 ctx hh hw hc =>
    exact pot_lt_of_abort hw (failedDone_workers ..) (failedDone_cancelled ..) hc (show 2 ≤ pcw .fetching by decide)
      (flush_pending_le (failPre { s with workers := l1 ++ l2 } hh))
  | giveUp l1 l2 ctx hh hw hc =>
    exact pot_lt_of_abort hw (flush_workers _) (flush_cancelled _) hc (show 2 ≤ pcw .waitSlot by decide)
      (flush_pending_le (giveUpSt s (l1 ++ l2) hh))
  | finish l1 l2 ctx hh hw =>
    have hfr : fresh U (done { s with workers := l1 ++ l2 } hh) ≤ fresh U s :=
      fresh_mono (fun k hk => by rw [done_log]; exact hk) fun k hk => by
        rw [task_done]
        split
        · exact nofun
        · exact hk
    -- the `LoadEnd` is emitted only by the last worker
    have hpb : (done { s with workers := l1 ++ l2 } hh).pending.length + busy (l1 ++ l2)
        ≤ s.pending.length + 1 := by
      cases hl : l1 ++ l2 with
      | nil => exact flush_pending_le (donePre { s with workers := [] } hh)
      | cons w' ws =>
        have hm : w' ∈ l1 ++ l2 := hl ▸ List.mem_cons_self
        have hnd := hi.w_nodup; rw [hw] at hnd
        have ht := hi.w_task w' (hw ▸ mem_split_of hm)
        rw [done_pending_of_unfinished (s := { s with workers := w' :: ws }) (h := hh) ht (tsOf_ne_fetched _)
          (fun e => (nodup_split hnd).2 w' hm e.symm)]
        exact Nat.le_refl _
    refine pot_lt_of_leave hw (done_workers ..) (done_cancelled ..) ?_
    have : 0 < wt U.length s.cancelled ⟨ctx, hh, .finishing⟩ := Nat.add_pos_right _ (show 0 < pcw .finishing by decide)
    omega
  | slot l1 l2 ctx hh hw hc hs =>
    refine pot_lt_of_advance hw rfl rfl rfl (fresh_mono (fun _ hk => hk) fun k hk => ?_) (by decide)
    rw [show task (slotSt s _ hh) k = _ from task_setTask s hh .fetching k]
    split
    · exact nofun
    · exact hk
  | fetchedForeign l1 l2 ctx hh hw hc hf =>
    exact pot_lt_of_advance hw rfl rfl rfl (Nat.le_refl _) (by decide)
  | fetched l1 l2 ctx hh hw hc hf =>
    -- the fetch returns (the worker goes on), then its links are queued
    have hhU : hh ∈ U := hin.workers ⟨ctx, hh, .fetching⟩ (hw ▸ List.mem_append_cons_self)
    exact Nat.lt_of_le_of_lt
      (pot_enqd_le (s := bufSt s (l1 ++ ⟨ctx, hh, .finishing⟩ :: l2) hh) rfl hc (freshOf_nodup ..) fun k hk =>
        ⟨hU hh hhU hf k (mem_freshOf.1 hk).1, isFresh_iff.2 (mem_freshOf.1 hk).2⟩)
      (pot_lt_of_advance hw rfl rfl rfl (Nat.le_refl _) (by decide))
  | deliver batch rest hp =>
    have hfr : fresh U { s with pending := rest, log := joinBatch net s.log batch } ≤ fresh U s :=
      fresh_mono (fun k hk => mem_joinBatch.2 (.inl hk)) fun _ hk => hk
    unfold pot potB
    simp only [hp, List.length_cons]
    omega

end Orbit.Repl
