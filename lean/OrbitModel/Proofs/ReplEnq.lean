import OrbitModel.Proofs.ReplBasic
import OrbitModel.Proofs.ListSet
/-!
# Replicator: an explicit description of `foldl (enqueue ctx)`

Queuing a list of hashes adds exactly the fresh ones (`freshOf`: not in the oplog, no task, first
occurrence), each with a task `added`, a queue item and one waiting worker bound to it (`enqd`).
-/
namespace Orbit.Repl

def spawn (ctx : Nat) (nw : List Nat) : List Worker := nw.map (fun h => ⟨ctx, h, .waitSlot⟩)

/-- the state after queuing the fresh hashes `nw` (in this order) for context `ctx` -/
def enqd (s : St) (ctx : Nat) (nw : List Nat) : St :=
  { s with tasks := nw.reverse.map (fun k => (k, TS.added)) ++ s.tasks,
           queue := s.queue ++ nw, workers := s.workers ++ spawn ctx nw }

@[simp] theorem enqd_log (s : St) (ctx : Nat) (nw : List Nat) : (enqd s ctx nw).log = s.log := rfl
@[simp] theorem enqd_failed (s : St) (ctx : Nat) (nw : List Nat) : (enqd s ctx nw).failed = s.failed := rfl
@[simp] theorem enqd_buffer (s : St) (ctx : Nat) (nw : List Nat) : (enqd s ctx nw).buffer = s.buffer := rfl
@[simp] theorem enqd_pending (s : St) (ctx : Nat) (nw : List Nat) : (enqd s ctx nw).pending = s.pending := rfl
@[simp] theorem enqd_sem (s : St) (ctx : Nat) (nw : List Nat) : (enqd s ctx nw).sem = s.sem := rfl
@[simp] theorem enqd_inProgress (s : St) (ctx : Nat) (nw : List Nat) :
    (enqd s ctx nw).inProgress = s.inProgress := rfl
@[simp] theorem enqd_cancelled (s : St) (ctx : Nat) (nw : List Nat) :
    (enqd s ctx nw).cancelled = s.cancelled := rfl
@[simp] theorem enqd_workers (s : St) (ctx : Nat) (nw : List Nat) :
    (enqd s ctx nw).workers = s.workers ++ spawn ctx nw := rfl
@[simp] theorem enqd_queue (s : St) (ctx : Nat) (nw : List Nat) : (enqd s ctx nw).queue = s.queue ++ nw := rfl

theorem task_enqd (s : St) (ctx : Nat) (nw : List Nat) (k : Nat) :
    task (enqd s ctx nw) k = if k ∈ nw then some .added else task s k := by
  simp only [task_def, enqd, lookup_added_append, List.mem_reverse]

theorem inBP_enqd (s : St) (ctx : Nat) (nw : List Nat) (k : Nat) : inBP (enqd s ctx nw) k ↔ inBP s k :=
  inBP_congr rfl rfl k

theorem enqd_nil (s : St) (ctx : Nat) : enqd s ctx [] = s := by
  cases s; simp [enqd, spawn]

theorem mem_spawn {ctx : Nat} {nw : List Nat} {w : Worker} :
    w ∈ spawn ctx nw ↔ ∃ h ∈ nw, w = ⟨ctx, h, .waitSlot⟩ := by
  simp only [spawn, List.mem_map, eq_comm]

theorem spawn_items (ctx : Nat) (nw : List Nat) : (spawn ctx nw).map (·.item) = nw := by
  simp [spawn, Function.comp_def]

theorem enqd_enqd (s : St) (ctx : Nat) (a b : List Nat) : enqd (enqd s ctx a) ctx b = enqd s ctx (a ++ b) := by
  simp only [enqd, spawn, List.reverse_append, List.map_append, List.append_assoc]

def isFresh (s : St) (k : Nat) : Bool := !(s.log.contains k || (task s k).isSome)

theorem isFresh_iff {s : St} {k : Nat} : isFresh s k = true ↔ k ∉ s.log ∧ task s k = none := by
  unfold isFresh
  cases ht : task s k <;> simp

theorem isFresh_enqd (s : St) (ctx : Nat) (nw : List Nat) :
    isFresh (enqd s ctx nw) = fun k => !nw.contains k && isFresh s k := by
  funext k
  unfold isFresh
  rw [task_enqd]
  by_cases hk : k ∈ nw <;> simp [hk]

theorem enqueue_eq (ctx : Nat) (s : St) (h : Nat) :
    enqueue ctx s h = if isFresh s h then enqd s ctx [h] else s := by
  unfold enqueue isFresh
  cases hc : (s.log.contains h || (task s h).isSome)
  · have ht : task s h = none := by simpa using (Bool.or_eq_false_iff.1 hc).2
    simp only [enqd, setTask, spawn, filter_of_lookup_none ht]; rfl
  · rfl

/-- the hashes of `l` that `foldl (enqueue ctx) s l` queues: the fresh ones, each where it first occurs -/
def freshOf (s : St) (l : List Nat) : List Nat := (l.filter (isFresh s)).eraseDups

theorem mem_freshOf {s : St} {l : List Nat} {k : Nat} :
    k ∈ freshOf s l ↔ k ∈ l ∧ k ∉ s.log ∧ task s k = none := by
  rw [freshOf, List.mem_eraseDups, List.mem_filter, isFresh_iff]

theorem freshOf_nodup (s : St) (l : List Nat) : (freshOf s l).Nodup := List.nodup_eraseDups _

theorem foldl_enqueue_eq (ctx : Nat) (l : List Nat) (s : St) :
    l.foldl (enqueue ctx) s = enqd s ctx (freshOf s l) := by
  induction l generalizing s with
  | nil => exact (enqd_nil s ctx).symm
  | cons h l ih =>
    rw [List.foldl_cons, enqueue_eq, freshOf, List.filter_cons]
    split
    · -- `h` is queued; behind it the fresh ones are those of `s` other than `h`
      rw [ih, enqd_enqd, List.eraseDups_cons, List.filter_filter, freshOf, isFresh_enqd]
      simp only [List.contains_cons, List.contains_nil, Bool.or_false]
      rfl
    · exact ih s

theorem tracked_enqd (s : St) (ctx : Nat) (nw : List Nat) (k : Nat) :
    tracked (enqd s ctx nw) k ↔ tracked s k ∨ k ∈ nw := by
  unfold tracked
  rw [task_enqd]
  by_cases hk : k ∈ nw <;> simp [hk]

theorem tracked_enqd_freshOf (s : St) (ctx : Nat) {l : List Nat} {k : Nat} (hk : k ∈ l) :
    tracked (enqd s ctx (freshOf s l)) k := by
  rw [tracked_enqd, mem_freshOf]
  by_cases h1 : k ∈ s.log
  · exact .inl (.inl h1)
  · by_cases h2 : task s k = none
    · exact .inr ⟨hk, h1, h2⟩
    · exact .inl (.inr (.inl h2))

theorem got_enqd {s : St} {ctx : Nat} {nw : List Nat} {k : Nat} (h : got (enqd s ctx nw) k) : got s k := by
  rcases h with h | ⟨w, hm, e, hp⟩
  · rw [task_enqd] at h
    split at h
    · cases h
    · exact .inl h
  · rcases List.mem_append.1 hm with hm | hm
    · exact .inr ⟨w, hm, e, hp⟩
    · obtain ⟨_, _, rfl⟩ := mem_spawn.1 hm
      cases hp

theorem keys_nodup_filter {ts : List (Nat × TS)} (h : Nat) (hn : (ts.map (·.1)).Nodup) :
    ((ts.filter (·.1 != h)).map (·.1)).Nodup :=
  List.Nodup.sublist (List.Sublist.map _ List.filter_sublist) hn

theorem keys_nodup_set {ts : List (Nat × TS)} (h : Nat) (t : TS) (hn : (ts.map (·.1)).Nodup) :
    (((h, t) :: ts.filter (·.1 != h)).map (·.1)).Nodup := by
  rw [List.map_cons, List.nodup_cons]
  refine ⟨?_, keys_nodup_filter h hn⟩
  intro hm
  obtain ⟨p, hp, he⟩ := List.mem_map.1 hm
  have := (List.mem_filter.1 hp).2
  simp at this
  exact this he

theorem keys_nodup_enqd {s : St} (ctx : Nat) {nw : List Nat} (hn : (s.tasks.map (·.1)).Nodup)
    (hnd : nw.Nodup) (hnew : ∀ k ∈ nw, task s k = none) : ((enqd s ctx nw).tasks.map (·.1)).Nodup := by
  have e : (enqd s ctx nw).tasks.map (·.1) = nw.reverse ++ s.tasks.map (·.1) := by
    simp [enqd, Function.comp_def]
  rw [e, List.nodup_append]
  refine ⟨List.pairwise_reverse.2 (hnd.imp Ne.symm), hn, fun a ha b hb e => ?_⟩
  obtain ⟨p, hp, rfl⟩ := List.mem_map.1 hb
  exact lookup_eq_none.1 (hnew a (List.mem_reverse.1 ha)) p hp e.symm

end Orbit.Repl
