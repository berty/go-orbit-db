import OrbitModel.Model.Net
/-!
# What one valid action keeps, and its lifting to `run` (C02)

An action changes at most one replica (`updRep`), so what it does to `Covers` and to the held sets is
said once for `updRep` (`covers_updRep`, `held_updRep`) and read off per action. What a valid
action only lets grow is collected in `Later`, which is transitive: `later_run`.
-/
namespace Orbit.Net

theorem getElem?_updRep (s : State) (i : Nat) (f : Replica → Replica) (k : Nat) :
    (updRep s i f).reps[k]? = (s.reps[k]?).map (fun r => if k = i then f r else r) := by
  simp only [updRep, List.getElem?_mapIdx, beq_iff_eq]

theorem getElem?_updRep_self {s : State} {i : Nat} {r : Replica} (f : Replica → Replica)
    (hr : s.reps[i]? = some r) : (updRep s i f).reps[i]? = some (f r) := by
  rw [getElem?_updRep, hr, Option.map_some, if_pos rfl]

@[simp] theorem updRep_soup (s : State) (i f) : (updRep s i f).soup = s.soup := rfl
@[simp] theorem updRep_acked (s : State) (i f) : (updRep s i f).acked = s.acked := rfl
@[simp] theorem updRep_length (s : State) (i f) : (updRep s i f).reps.length = s.reps.length := by
  simp only [updRep, List.length_mapIdx]

theorem mem_ancAll {u : Univ} {hs : List Nat} {x : Nat} :
    x ∈ ancAll u hs ↔ ∃ h ∈ hs, x ∈ u.anc h := by
  simp only [ancAll, List.mem_flatMap]

theorem covers_iff {u : Univ} {s : State} :
    Covers u s ↔ ∀ (i : Nat) (r : Replica), s.reps[i]? = some r → ∀ x ∈ r.held, x ∈ ancAll u r.heads := by
  constructor
  · intro h i r hi
    exact h r (List.mem_of_getElem? hi)
  · intro h r hr
    obtain ⟨i, hi⟩ := List.getElem?_of_mem hr
    exact h i r hi

def Act.isWrite : Act → Bool
  | .write _ _ => true
  | _ => false

def ValidRun (u : Univ) : State → List Act → Prop
  | _, [] => True
  | s, a :: as => Valid u s a ∧ ValidRun u (step u s a) as

@[simp] theorem run_nil (u : Univ) (s : State) : run u s [] = s := rfl
@[simp] theorem run_cons (u : Univ) (s : State) (a : Act) (as : List Act) :
    run u s (a :: as) = run u (step u s a) as := rfl
theorem run_append (u : Univ) (s : State) (as bs : List Act) :
    run u s (as ++ bs) = run u (run u s as) bs := by
  simp only [run, List.foldl_append]

theorem validRun_append {u : Univ} {s : State} {as bs : List Act} :
    ValidRun u s (as ++ bs) ↔ ValidRun u s as ∧ ValidRun u (run u s as) bs := by
  induction as generalizing s with
  | nil => simp only [List.nil_append, ValidRun, true_and, run_nil]
  | cons a as ih => simp only [List.cons_append, ValidRun, ih, run_cons, and_assoc]

theorem covers_updRep {u : Univ} {s : State} {i : Nat} {f : Replica → Replica} (hc : Covers u s)
    (hf : ∀ r, s.reps[i]? = some r → ∀ x ∈ (f r).held, x ∈ ancAll u (f r).heads) :
    Covers u (updRep s i f) := by
  rw [covers_iff] at hc ⊢
  intro k r' hk
  rw [getElem?_updRep, Option.map_eq_some_iff] at hk
  obtain ⟨r, hr, rfl⟩ := hk
  split
  · next hki => exact hf r (hki ▸ hr)
  · exact hc k r hr

theorem held_updRep {s : State} {i : Nat} {f : Replica → Replica}
    (hf : ∀ r, s.reps[i]? = some r → ∀ x ∈ r.held, x ∈ (f r).held) (k : Nat) (r : Replica)
    (hr : s.reps[k]? = some r) :
    ∃ r', (updRep s i f).reps[k]? = some r' ∧ ∀ x ∈ r.held, x ∈ r'.held := by
  rw [getElem?_updRep, hr]
  refine ⟨_, rfl, ?_⟩
  split
  · next hki => exact hf r (hki ▸ hr)
  · exact fun _ hx => hx

/-- what an action can do. `same` is unguarded (it is there for a fault, and for an action naming a replica or
message that does not exist): the relation over-approximates `step`, which is all the safety proofs need; nothing
about progress can be read off it -/
inductive Next (u : Univ) (s : State) : Act → State → Prop
  | same (a : Act) : Next u s a s
  | write (i h : Nat) (r : Replica) : s.reps[i]? = some r → Next u s (.write i h)
      { updRep s i (fun r => { held := h :: r.held, heads := h :: r.heads }) with acked := h :: s.acked }
  | send (i j : Nat) (r : Replica) : s.reps[i]? = some r →
      Next u s (.send i j) { s with soup := s.soup ++ [{ dst := j, heads := r.heads }] }
  | recv (k : Nat) (c : List Nat) (m : Msg) : s.soup[k]? = some m → Next u s (.recv k c)
      (updRep s m.dst (fun r => { held := r.held ++ ancAll u m.heads, heads := c }))
  | restart (i : Nat) :
      Next u s (.restart i) (updRep s i (fun r => { held := ancAll u r.heads, heads := r.heads }))

theorem step_next (u : Univ) (s : State) (a : Act) : Next u s a (step u s a) := by
  cases a with
  | write i h =>
    simp only [step]; split
    · exact .write i h _ ‹_›
    · exact .same _
  | send i j =>
    simp only [step]; split
    · exact .send i j _ ‹_›
    · exact .same _
  | recv k c =>
    simp only [step]; split
    · exact .recv k c _ ‹_›
    · exact .same _
  | restart i => exact .restart i
  | fault => exact .same _

theorem Next.length {u : Univ} {s s' : State} {a : Act} (h : Next u s a s') :
    s'.reps.length = s.reps.length := by
  cases h <;> first | rfl | exact updRep_length ..

/-- the soup only grows, by appending -/
theorem Next.soup {u : Univ} {s s' : State} {a : Act} (h : Next u s a s') {k : Nat} {m : Msg}
    (hk : s.soup[k]? = some m) : s'.soup[k]? = some m := by
  cases h with
  | send => exact (List.getElem?_append_left (List.getElem?_eq_some_iff.mp hk).1).trans hk
  | _ => exact hk

theorem step_length (u : Univ) (s : State) (a : Act) : (step u s a).reps.length = s.reps.length :=
  (step_next u s a).length

theorem step_soup (u : Univ) (s : State) (a : Act) {k : Nat} {m : Msg} (hk : s.soup[k]? = some m) :
    (step u s a).soup[k]? = some m :=
  (step_next u s a).soup hk

theorem run_length (u : Univ) (s : State) (as : List Act) : (run u s as).reps.length = s.reps.length :=
  List.foldlRecOn as (step u) (motive := fun s' => s'.reps.length = s.reps.length) rfl
    (fun s' h a _ => (step_length u s' a).trans h)

theorem run_soup (u : Univ) (s : State) (as : List Act) {k : Nat} {m : Msg} (hk : s.soup[k]? = some m) :
    (run u s as).soup[k]? = some m :=
  List.foldlRecOn as (step u) (motive := fun s' => s'.soup[k]? = some m) hk
    (fun s' h a _ => step_soup u s' a h)

theorem send_soup (u : Univ) {s : State} {i : Nat} {r : Replica} (hr : s.reps[i]? = some r) (j : Nat) :
    (step u s (.send i j)).soup[s.soup.length]? = some { dst := j, heads := r.heads } := by
  simp only [step, hr, List.getElem?_append_right (Nat.le_refl _), Nat.sub_self, List.getElem?_cons_zero]

/-- (the universe plays no part; the argument keeps the shape of `Covers u s`) -/
def AckedSomewhere (_u : Univ) (s : State) : Prop := ∀ h ∈ s.acked, ∃ r ∈ s.reps, h ∈ r.held

theorem ackedSomewhere_iff {u : Univ} {s : State} :
    AckedSomewhere u s ↔ ∀ h ∈ s.acked, ∃ (i : Nat) (r : Replica), s.reps[i]? = some r ∧ h ∈ r.held := by
  constructor
  · intro H h hh
    obtain ⟨r, hr, hx⟩ := H h hh
    obtain ⟨i, hi⟩ := List.getElem?_of_mem hr
    exact ⟨i, r, hi, hx⟩
  · intro H h hh
    obtain ⟨i, r, hi, hx⟩ := H h hh
    exact ⟨r, List.mem_of_getElem? hi, hx⟩

/-- `s'` comes after `s` in a valid run: every replica holds what it held, and what was acknowledged in between
is held somewhere -/
structure Later (s s' : State) : Prop where
  held : ∀ (i : Nat) (r : Replica), s.reps[i]? = some r →
    ∃ r', s'.reps[i]? = some r' ∧ ∀ x ∈ r.held, x ∈ r'.held
  acked : ∀ h ∈ s'.acked, h ∈ s.acked ∨ ∃ (i : Nat) (r : Replica), s'.reps[i]? = some r ∧ h ∈ r.held

theorem Later.refl (s : State) : Later s s :=
  ⟨fun _ r hr => ⟨r, hr, fun _ h => h⟩, fun _ h => .inl h⟩

theorem Later.trans {s s' s'' : State} (h₁ : Later s s') (h₂ : Later s' s'') : Later s s'' where
  held i r hr := by
    obtain ⟨r₁, hr₁, m₁⟩ := h₁.held i r hr
    obtain ⟨r₂, hr₂, m₂⟩ := h₂.held i r₁ hr₁
    exact ⟨r₂, hr₂, fun x hx => m₂ x (m₁ x hx)⟩
  acked h hh := by
    rcases h₂.acked h hh with hh | hh
    · refine (h₁.acked h hh).imp_right fun ⟨i, r₁, hr₁, hx⟩ => ?_
      obtain ⟨r₂, hr₂, m₂⟩ := h₂.held i r₁ hr₁
      exact ⟨i, r₂, hr₂, m₂ h hx⟩
    · exact .inr hh

theorem Later.ackedSomewhere {u : Univ} {s s' : State} (h : Later s s') (ha : AckedSomewhere u s) :
    AckedSomewhere u s' := by
  rw [ackedSomewhere_iff] at ha ⊢
  intro x hx
  rcases h.acked x hx with hx | hx
  · obtain ⟨i, r, hr, hxr⟩ := ha x hx
    obtain ⟨r', hr', hm⟩ := h.held i r hr
    exact ⟨i, r', hr', hm x hxr⟩
  · exact hx

/-- a write puts the entry into the held set and the heads, a merge is `Valid`, a restart loads exactly
the ancestry of the heads -/
theorem Next.covers {u : Univ} {s s' : State} {a : Act} (h : Next u s a s') (hc : Covers u s)
    (hv : Valid u s a) : Covers u s' := by
  cases h with
  | same => exact hc
  | write i h _ _ =>
    -- `Covers` looks at the replicas only, not at `acked`
    refine covers_updRep (f := fun r => { held := h :: r.held, heads := h :: r.heads }) hc ?_
    intro r hr x hx
    rcases List.mem_cons.mp hx with rfl | hx
    · exact List.mem_append_left _ (u.self_mem _)
    · exact List.mem_append_right _ (covers_iff.mp hc i r hr x hx)
  | send => exact hc
  | recv k c m hm => exact covers_updRep hc (fun r hr x hx => hv m hm r hr x (List.mem_append.mp hx))
  | restart i => exact covers_updRep hc (fun _ _ _ hx => hx)

/-- a write and a merge add; a restart reloads the ancestry of the cached heads, which cover what was
held (`hc`) -/
theorem Next.later {u : Univ} {s s' : State} {a : Act} (h : Next u s a s') (hc : Covers u s) :
    Later s s' := by
  refine ⟨?held, ?acked⟩
  case held =>
    cases h with
    | write => exact held_updRep fun _ _ _ hx => List.mem_cons_of_mem _ hx
    | recv => exact held_updRep fun _ _ _ hx => List.mem_append_left _ hx
    | restart i => exact held_updRep (covers_iff.mp hc i)
    | _ => exact (Later.refl s).held
  case acked =>
    cases h with
    | write i h r hr =>
      intro x hx
      rcases List.mem_cons.mp hx with rfl | hx
      · exact .inr ⟨i, _, getElem?_updRep_self _ hr, List.mem_cons_self⟩
      · exact .inl hx
    | _ => exact fun _ => .inl

theorem Next.acked_eq {u : Univ} {s s' : State} {a : Act} (h : Next u s a s')
    (hw : a.isWrite = false) : s'.acked = s.acked := by
  cases h with
  | write => cases hw
  | _ => rfl

theorem covers_run {u : Univ} : ∀ {s : State} {as : List Act}, Covers u s → ValidRun u s as →
    Covers u (run u s as)
  | _, [], hc, _ => hc
  | s, a :: _, hc, hv => covers_run (s := step u s a) ((step_next ..).covers hc hv.1) hv.2

theorem later_run {u : Univ} : ∀ {s : State} {as : List Act}, Covers u s → ValidRun u s as →
    Later s (run u s as)
  | _, [], _, _ => .refl _
  | s, a :: _, hc, hv =>
    ((step_next u s a).later hc).trans (later_run ((step_next ..).covers hc hv.1) hv.2)

theorem run_acked (u : Univ) (s : State) (as : List Act) (hw : ∀ a ∈ as, a.isWrite = false) :
    (run u s as).acked = s.acked :=
  List.foldlRecOn as (step u) (motive := fun s' => s'.acked = s.acked) rfl
    (fun s' h a ha => ((step_next u s' a).acked_eq (hw a ha)).trans h)

theorem write_held (u : Univ) (s : State) (i h : Nat) (hi : i < s.reps.length) :
    ∃ r, (step u s (.write i h)).reps[i]? = some r ∧ h ∈ r.held := by
  obtain ⟨r, hr⟩ : ∃ r, s.reps[i]? = some r := ⟨_, List.getElem?_eq_getElem hi⟩
  simp only [step, hr]
  exact ⟨_, getElem?_updRep_self _ hr, List.mem_cons_self⟩

theorem acked_held_by_author (u : Univ) (s : State) (i h : Nat) (hi : i < s.reps.length)
    (hc : Covers u s) (hw : Valid u s (.write i h)) (as : List Act)
    (hv : ValidRun u (step u s (.write i h)) as) :
    ∃ r, (run u s (.write i h :: as)).reps[i]? = some r ∧ h ∈ r.held := by
  obtain ⟨r, hr, hx⟩ := write_held u s i h hi
  obtain ⟨r', hr', hm⟩ := (later_run ((step_next ..).covers hc hw) hv).held i r hr
  exact ⟨r', hr', hm h hx⟩

end Orbit.Net
