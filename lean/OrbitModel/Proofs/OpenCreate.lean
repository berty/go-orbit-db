import OrbitModel.Model.OpenCreate
import OrbitModel.Proofs.Address
/-!
# `Create` / `Open` of one OrbitDB instance: what is refused, what is handed back   (C14)

Hypothesis on the manifest hash wherever an address is printed and parsed again: it is recognised
as a CID and is a proper path segment (`isCid h = true`, `Seg h`: not empty, `.`, `..`, no `/`),
as in `determine_parse_print`. It is asked only of the one hash involved.
-/
namespace Orbit.OC
open Orbit.Path

variable {isCid : String → Bool} {H : String → String → List String → String}

theorem haveLocal_iff (s : St) (a : Addr) : haveLocal s a = true ↔ a ∈ s.local := by
  simp [haveLocal]

theorem mem_addLocal (s : St) (a : Addr) : a ∈ (addLocal s a).local := by
  unfold addLocal
  by_cases h : s.local.contains a = true
  · rw [if_pos h]; exact List.contains_iff_mem.mp h
  · rw [if_neg h]; simp

theorem addLocal_of_mem {s : St} {a : Addr} (h : a ∈ s.local) : addLocal s a = s := by
  unfold addLocal
  simp [h]

theorem localOnly_pass_iff (s : St) (a : Addr) (o : Opts) :
    (o.localOnly && !haveLocal s a) = false ↔ (o.localOnly = true → a ∈ s.local) := by
  rw [← haveLocal_iff]
  cases o.localOnly <;> simp

theorem fetch_putNet (s : St) (h : String) (m : Manifest) : fetch (putNet s h m).net h = some m := by
  simp [fetch, putNet]

theorem putNet_same_fetch (s : St) (h : String) (m : Manifest) (hm : fetch s.net h = some m)
    (k : String) : fetch (putNet s h m).net k = fetch s.net k := by
  simp only [fetch, putNet, List.lookup_cons]
  by_cases hk : (k == h) = true
  · have : k = h := by simpa using hk
    subst this
    simp only [beq_self_eq_true]
    exact hm.symm
  · simp only [hk]

theorem determineAddr_of {s : St} {name ty : String} {acl : List String} {a : Addr}
    (ht : s.types.contains ty = true)
    (hd : determine isCid (H name ty (effAcl s.self acl)) name = some a) :
    determineAddr isCid H s name ty acl =
      (.ok a, putNet s (H name ty (effAcl s.self acl)) ⟨name, ty, effAcl s.self acl⟩) := by
  unfold determineAddr
  simp only [ht, (determine_eq_some_iff.mp hd).1, Bool.not_true, Bool.false_eq_true, if_false, hd]

theorem determineAddr_ok_fst {s : St} {name ty : String} {acl : List String} {a : Addr}
    (h : (determineAddr isCid H s name ty acl).1 = .ok a) :
    s.types.contains ty = true ∧ determine isCid (H name ty (effAcl s.self acl)) name = some a := by
  unfold determineAddr at h
  cases ht : s.types.contains ty
  · rw [ht] at h; cases h
  cases hn : isAddress isCid name
  case true => rw [ht, hn] at h; cases h
  cases hd : determine isCid (H name ty (effAcl s.self acl)) name <;>
    simp only [ht, hn, hd] at h <;> cases h
  exact ⟨rfl, rfl⟩

theorem openValid_state (s : St) (a : Addr) (o : Opts) : (openValid s a o).2 = s := by
  unfold openValid
  cases o.localOnly && !haveLocal s a <;> cases fetch s.net a.root with
  | none => rfl
  | some m => dsimp only; cases s.types.contains m.type <;> rfl

theorem openValid_ok {s : St} {a : Addr} {o : Opts} {out : Out}
    (h : (openValid s a o).1 = .ok out) :
    ∃ m, fetch s.net a.root = some m ∧ out = (a, m.type, m.acl) ∧ s.types.contains m.type = true ∧
      (o.localOnly = true → a ∈ s.local) := by
  unfold openValid at h
  cases hlo : o.localOnly && !haveLocal s a
  case true => rw [hlo] at h; cases h
  cases hm : fetch s.net a.root with
  | none => simp only [hlo, hm] at h; cases h
  | some m =>
    cases ht : s.types.contains m.type <;> simp only [hlo, hm, ht] at h <;> cases h
    exact ⟨m, rfl, rfl, ht, (localOnly_pass_iff s a o).mp hlo⟩

theorem openValid_of {s : St} {a : Addr} {o : Opts} {m : Manifest}
    (hl : o.localOnly = true → a ∈ s.local) (hm : fetch s.net a.root = some m)
    (ht : s.types.contains m.type = true) :
    openValid s a o = (.ok (a, m.type, m.acl), s) := by
  unfold openValid
  simp only [(localOnly_pass_iff s a o).mpr hl, Bool.false_eq_true, if_false, hm, ht, Bool.not_true]

/-- the write list and the manifest hash `Create` records -/
abbrev recAcl (s : St) (o : Opts) : List String := effAcl s.self o.acl
abbrev recHash (H : String → String → List String → String) (s : St) (name ty : String) (o : Opts) :
    String := H name ty (recAcl s o)

theorem create_of {s : St} {name ty : String} {o : Opts} {a : Addr}
    (ht : s.types.contains ty = true)
    (hd : determine isCid (recHash H s name ty o) name = some a)
    (hc : isCid (recHash H s name ty o) = true) (hs : Seg (recHash H s name ty o)) :
    create isCid H s name ty o =
      if haveLocal s a && !o.overwrite then
        (.error .exists, putNet s (recHash H s name ty o) ⟨name, ty, recAcl s o⟩)
      else (.ok (a, ty, recAcl s o),
        addLocal (putNet s (recHash H s name ty o) ⟨name, ty, recAcl s o⟩) a) := by
  have hpp : parse isCid (print a) = some a := determine_parse_print hc hs hd
  have hroot : a.root = recHash H s name ty o := determine_root hd
  unfold create
  rw [determineAddr_of ht hd]
  simp only [hpp]
  have hl : haveLocal (putNet s (recHash H s name ty o) ⟨name, ty, recAcl s o⟩) a = haveLocal s a := rfl
  rw [hl]
  split
  · rfl
  · apply openValid_of (m := ⟨name, ty, recAcl s o⟩)
    · intro _
      exact mem_addLocal _ a
    · rw [hroot]; exact fetch_putNet s _ _
    · exact ht

theorem create_ok {s : St} {name ty : String} {o : Opts} {out : Out}
    (hc : isCid (recHash H s name ty o) = true) (hs : Seg (recHash H s name ty o))
    (h : (create isCid H s name ty o).1 = .ok out) :
    ∃ a, s.types.contains ty = true ∧ determine isCid (recHash H s name ty o) name = some a ∧
      out = (a, ty, recAcl s o) ∧
      create isCid H s name ty o =
        (.ok out, addLocal (putNet s (recHash H s name ty o) ⟨name, ty, recAcl s o⟩) a) := by
  obtain ⟨a, ht, hd⟩ : ∃ a, s.types.contains ty = true ∧
      determine isCid (recHash H s name ty o) name = some a := by
    unfold create at h
    split at h
    · cases h
    · rename_i a s1 heq
      exact ⟨a, determineAddr_ok_fst (by rw [heq])⟩
  refine ⟨a, ht, hd, ?_⟩
  rw [create_of ht hd hc hs] at h ⊢
  by_cases hx : (haveLocal s a && !o.overwrite) = true
  · rw [if_pos hx] at h; cases h
  · rw [if_neg hx] at h ⊢; cases h; exact ⟨rfl, rfl⟩

/-- the refusal comes after `DetermineAddress` has written the manifest block (U2), which changes no read
when the block was already there (`putNet_same_fetch`), and before the address is printed: the manifest
hash need not be a CID. -/
theorem create_refused_when_exists (s : St) (name ty : String) (o : Opts) (a : Addr)
    (hd : (determineAddr isCid H s name ty o.acl).1 = .ok a)
    (hl : a ∈ s.local) (ho : o.overwrite = false) :
    create isCid H s name ty o =
      (.error .exists, putNet s (recHash H s name ty o) ⟨name, ty, recAcl s o⟩) := by
  obtain ⟨ht, hdet⟩ := determineAddr_ok_fst hd
  unfold create
  rw [determineAddr_of ht hdet]
  have hl' : haveLocal (putNet s (recHash H s name ty o) ⟨name, ty, recAcl s o⟩) a = true :=
    (haveLocal_iff _ _).mpr hl
  simp only [hl', ho, Bool.not_false, Bool.and_self, if_true]

/-- overwrite is what `Open` sets when it falls back to `Create` -/
theorem create_overwrite_ok (s : St) (name ty : String) (o : Opts) (a : Addr)
    (hd : (determineAddr isCid H s name ty o.acl).1 = .ok a)
    (hc : isCid (recHash H s name ty o) = true) (hs : Seg (recHash H s name ty o))
    (ho : o.overwrite = true) :
    (create isCid H s name ty o).1 = .ok (a, ty, recAcl s o) := by
  obtain ⟨ht, hdet⟩ := determineAddr_ok_fst hd
  rw [create_of ht hdet hc hs]
  simp [ho]

/-- the state enters through `self` only, the default of an empty write list (U5) -/
theorem create_address_eq_determine (s : St) (name ty : String) (o : Opts) (out : Out)
    (hc : isCid (recHash H s name ty o) = true) (hs : Seg (recHash H s name ty o))
    (h : (create isCid H s name ty o).1 = .ok out) :
    determine isCid (H name ty (effAcl s.self o.acl)) name = some out.1 ∧
    out.2.1 = ty ∧ out.2.2 = effAcl s.self o.acl := by
  obtain ⟨a, _, hdet, rfl, _⟩ := create_ok hc hs h
  exact ⟨hdet, rfl, rfl⟩

theorem create_address_state_independent (s s' : St) (name ty : String) (o : Opts) (out out' : Out)
    (hacl : o.acl ≠ [])
    (hc : isCid (H name ty o.acl) = true) (hs : Seg (H name ty o.acl))
    (h : (create isCid H s name ty o).1 = .ok out)
    (h' : (create isCid H s' name ty o).1 = .ok out') : out = out' := by
  have he : ∀ x : String, effAcl x o.acl = o.acl := fun x => by
    unfold effAcl
    cases hq : o.acl with
    | nil => exact absurd hq hacl
    | cons _ _ => rfl
  have hr : ∀ x : St, recHash H x name ty o = H name ty o.acl := fun x => congrArg _ (he _)
  obtain ⟨h1, h2, h3⟩ := create_address_eq_determine s name ty o out (hr s ▸ hc) (hr s ▸ hs) h
  obtain ⟨h1', h2', h3'⟩ := create_address_eq_determine s' name ty o out' (hr s' ▸ hc) (hr s' ▸ hs) h'
  rw [he] at h1 h1' h3 h3'
  exact Prod.ext (Option.some.inj (h1.symm.trans h1')) (Prod.ext (h2.trans h2'.symm) (h3.trans h3'.symm))

end Orbit.OC
