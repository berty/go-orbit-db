import OrbitModel.Proofs.OMap
/-!
# `difference` takes exactly the entries reached from the incoming heads through taken entries

`Taken` is that set, as an inductive predicate; `mem_difference` says the work-list loop computes it
(for any incoming log, honest or not). Soundness, provenance, completeness for the heads and closure
under `next` are its constructors and its induction principle.
-/
namespace Orbit

theorem pushNext_eq (held : OMap) (ns : List Nat) : ∀ stack trav : List Nat, ∃ new : List Nat,
    pushNext held ns stack trav = (stack ++ new, new.reverse ++ trav) ∧ new.Nodup ∧
    ∀ x, x ∈ new ↔ x ∈ ns ∧ x ∉ trav ∧ has held x = false := by
  induction ns with
  | nil => exact fun _ _ => ⟨[], by simp [pushNext], .nil, by simp⟩
  | cons n ns ih =>
    intro stack trav
    by_cases hc : n ∈ trav ∨ has held n = true
    · obtain ⟨new, h, hnd, hm⟩ := ih stack trav
      refine ⟨new, by simpa [pushNext, hc] using h, hnd, fun x => ?_⟩
      rw [hm, List.mem_cons]
      refine ⟨fun h => ⟨.inr h.1, h.2⟩, fun h => ⟨h.1.resolve_left ?_, h.2⟩⟩
      rintro rfl
      exact hc.elim h.2.1 (by simp [h.2.2])
    · obtain ⟨new, h, hnd, hm⟩ := ih (stack ++ [n]) (n :: trav)
      have hcn : ∀ a ∈ new, a ≠ n := fun a ha e => ((hm a).mp ha).2.1 (e ▸ List.mem_cons_self)
      simp only [not_or, Bool.not_eq_true] at hc
      refine ⟨n :: new, by simpa [pushNext, hc] using h, ?_, fun x => ?_⟩
      · exact List.nodup_cons.mpr ⟨fun h => hcn n h rfl, hnd⟩
      · by_cases hx : x = n <;> simp [hm, hx, hc]

/-- occurrences in `l` of hashes not in `t`. `stack.length + untraversed (nexts A) trav` drops at every turn
of `diffLoop`; the fuel `difference` gives is its initial value plus one. -/
def untraversed (l t : List Nat) : Nat := (l.filter (fun n => decide (n ∉ t))).length

theorem untraversed_le (l t : List Nat) : untraversed l t ≤ l.length := List.length_filter_le _ _

theorem untraversed_cons_le (l t : List Nat) (n : Nat) :
    untraversed l (n :: t) ≤ untraversed l t := by
  unfold untraversed
  rw [← List.countP_eq_length_filter, ← List.countP_eq_length_filter]
  exact List.countP_mono_left fun x _ h => by simp at h ⊢; exact h.2

theorem untraversed_cons_lt (l t : List Nat) (n : Nat) (hn : n ∈ l) (ht : n ∉ t) :
    untraversed l (n :: t) < untraversed l t := by
  have : l.filter (fun m => decide (m ∉ n :: t)) =
      (l.filter (fun m => decide (m ∉ t))).filter (fun m => decide (m ≠ n)) := by
    rw [List.filter_filter]
    exact List.filter_congr fun m _ => by simp
  unfold untraversed
  rw [this]
  exact List.length_filter_lt_length_iff_exists.mpr ⟨n, by simp [hn, ht], by simp⟩

theorem untraversed_push (l : List Nat) : ∀ new trav : List Nat, new.Nodup →
    (∀ x ∈ new, x ∈ l ∧ x ∉ trav) →
    new.length + untraversed l (new.reverse ++ trav) ≤ untraversed l trav
  | [], _, _, _ => by simp
  | n :: new, trav, hnd, h => by
    obtain ⟨hn, hnd⟩ := List.nodup_cons.mp hnd
    have ih := untraversed_push l new (n :: trav) hnd fun x hx =>
      ⟨(h x (List.mem_cons_of_mem _ hx)).1, by
        simp only [List.mem_cons, not_or]
        exact ⟨fun e => hn (e ▸ hx), (h x (List.mem_cons_of_mem _ hx)).2⟩⟩
    have := untraversed_cons_lt l trav n (h n List.mem_cons_self).1 (h n List.mem_cons_self).2
    simp only [List.reverse_cons, List.append_assoc, List.singleton_append, List.length_cons]
    omega

def Takes (A : OMap) (L : Log) (n : Nat) (e : Entry) : Prop :=
  get A n = some e ∧ has L.entries n = false ∧ e.logId = L.id

theorem Takes.hash {A : OMap} {L : Log} {n : Nat} {e : Entry} (h : Takes A L n e) : e.hash = n :=
  (get_some h.1).2

inductive Taken (A : OMap) (L : Log) (init : List Nat) : Entry → Prop
  | head {h : Nat} {e : Entry} : h ∈ init → Takes A L h e → Taken A L init e
  | link {p e : Entry} {n : Nat} : Taken A L init p → n ∈ p.next → Takes A L n e → Taken A L init e

theorem Taken.takes {A : OMap} {L : Log} {init : List Nat} {e : Entry} (h : Taken A L init e) :
    Takes A L e.hash e := by
  cases h with
  | head _ ht => exact ht.hash ▸ ht
  | link _ _ ht => exact ht.hash ▸ ht

/-- invariant of `diffLoop`. A hash is settled when it waits on the stack or, if it is to be taken, its
entry is in the result. -/
structure DiffInv (A : OMap) (L : Log) (init stack trav : List Nat) (res : OMap) : Prop where
  sound : ∀ e ∈ res, Taken A L init e
  stk   : ∀ h ∈ stack, h ∈ init ∨ ∃ p ∈ res, h ∈ p.next
  heads : ∀ h ∈ init, h ∈ stack ∨ ∀ e, Takes A L h e → e ∈ res
  links : ∀ p ∈ res, ∀ n ∈ p.next, n ∈ stack ∨ ∀ e, Takes A L n e → e ∈ res
  trav  : ∀ n ∈ trav, n ∈ stack ∨ ∀ e, Takes A L n e → e ∈ res

variable {A : OMap} {L : Log} {init stack trav : List Nat} {res : OMap} {hd : Nat}

theorem DiffInv.drop (h : DiffInv A L init (hd :: stack) trav res) (hno : ∀ e, ¬ Takes A L hd e) :
    DiffInv A L init stack trav res := by
  have settle : ∀ n, (n ∈ hd :: stack ∨ ∀ e, Takes A L n e → e ∈ res) →
      n ∈ stack ∨ ∀ e, Takes A L n e → e ∈ res := by
    rintro n (h | h)
    · rcases List.mem_cons.mp h with rfl | h
      · exact .inr fun e he => (hno e he).elim
      · exact .inl h
    · exact .inr h
  exact ⟨h.sound, fun x hx => h.stk x (List.mem_cons_of_mem _ hx), fun x hx => settle x (h.heads x hx),
    fun p hp n hn => settle n (h.links p hp n hn), fun n hn => settle n (h.trav n hn)⟩

theorem DiffInv.take {eA : Entry} {new : List Nat} (h : DiffInv A L init (hd :: stack) trav res)
    (ht : Takes A L hd eA)
    (hnew : ∀ x, x ∈ new ↔ x ∈ eA.next ∧ x ∉ hd :: trav ∧ has L.entries x = false) :
    DiffInv A L init (stack ++ new) (new.reverse ++ hd :: trav) (set res eA) := by
  have hT : Taken A L init eA :=
    (h.stk hd List.mem_cons_self).elim (.head · ht) fun ⟨p, hp, hn⟩ => .link (h.sound p hp) hn ht
  have hsub : ∀ x ∈ res, x ∈ set res eA := fun x hx => (mem_set res eA x).mpr (.inl hx)
  have hin : eA ∈ set res eA := by
    cases hh : has res eA.hash
    · exact (mem_set res eA eA).mpr (.inr ⟨rfl, hh⟩)
    · -- an entry of the same hash in the result is the one `A` has under that hash
      obtain ⟨y, hy, hyh⟩ := (has_iff res eA.hash).mp hh
      have := (h.sound y hy).takes.1
      rw [hyh, ht.hash, ht.1] at this
      exact Option.some.inj this ▸ hsub y hy
  have settle : ∀ n, (n ∈ hd :: stack ∨ ∀ e, Takes A L n e → e ∈ res) →
      n ∈ stack ++ new ∨ ∀ e, Takes A L n e → e ∈ set res eA := by
    rintro n (h | h)
    · rcases List.mem_cons.mp h with rfl | h
      · exact .inr fun e he => Option.some.inj (ht.1.symm.trans he.1) ▸ hin
      · exact .inl (List.mem_append_left _ h)
    · exact .inr fun e he => hsub e (h e he)
  have htrav : ∀ n ∈ new.reverse ++ hd :: trav,
      n ∈ stack ++ new ∨ ∀ e, Takes A L n e → e ∈ set res eA := by
    intro n hn
    rcases List.mem_append.mp hn with hn | hn
    · exact .inl (List.mem_append_right _ (List.mem_reverse.mp hn))
    · rcases List.mem_cons.mp hn with rfl | hn
      · exact settle _ (.inl List.mem_cons_self)
      · exact settle n (h.trav n hn)
  refine ⟨fun e he => ?sound, fun x hx => ?stk, fun x hx => settle x (h.heads x hx),
    fun p hp n hn => ?links, htrav⟩
  case sound => exact ((mem_set res eA e).mp he).elim (h.sound e) fun h => h.1 ▸ hT
  case stk =>
    rcases List.mem_append.mp hx with hx | hx
    · exact (h.stk x (List.mem_cons_of_mem _ hx)).imp_right fun ⟨p, hp, hn⟩ => ⟨p, hsub p hp, hn⟩
    · exact .inr ⟨eA, hin, ((hnew x).mp hx).1⟩
  case links =>
    rcases (mem_set res eA p).mp hp with hp | ⟨rfl, _⟩
    · exact settle n (h.links p hp n hn)
    · -- a link of the new entry is new, or traversed, or held
      by_cases hx : n ∈ new
      · exact .inl (List.mem_append_right _ hx)
      · by_cases ht : n ∈ hd :: trav
        · exact htrav n (List.mem_append_right _ ht)
        · have : has L.entries n = true := by
            cases hh : has L.entries n
            · exact absurd ((hnew n).mpr ⟨hn, ht, hh⟩) hx
            · rfl
          exact .inr fun e he => by rw [he.2.1] at this; cases this

theorem diffLoop_spec (A : OMap) (L : Log) (init : List Nat) :
    ∀ (fuel : Nat) (stack trav : List Nat) (res : OMap),
      stack.length + untraversed (nexts A) trav < fuel → DiffInv A L init stack trav res →
      ∀ e, e ∈ diffLoop A L fuel stack trav res ↔ Taken A L init e := by
  intro fuel
  induction fuel with
  | zero => intro _ _ _ hlt; omega
  | succ f ih =>
    intro stack trav res hlt h
    cases stack with
    | nil =>
      refine fun e => ⟨h.sound e, fun he => ?_⟩
      induction he with
      | head hh ht => exact (h.heads _ hh).elim (fun h => nomatch h) (· _ ht)
      | link _ hn ht ihp => exact (h.links _ ihp _ hn).elim (fun h => nomatch h) (· _ ht)
    | cons hd stack =>
      simp only [List.length_cons] at hlt
      unfold diffLoop
      cases hg : get A hd with
      | none => exact ih _ _ _ (by omega) (h.drop fun e he => nomatch hg.symm.trans he.1)
      | some eA =>
        simp only
        split
        · rename_i hcond
          simp only [Bool.and_eq_true, Bool.not_eq_true', beq_iff_eq] at hcond
          obtain ⟨new, hpn, hnd, hnew⟩ := pushNext_eq L.entries eA.next stack (hd :: trav)
          simp only [hpn]
          have hw := untraversed_push (nexts A) new (hd :: trav) hnd fun x hx =>
            ⟨(mem_nexts A x).mpr ⟨eA, (get_some hg).1, ((hnew x).mp hx).1⟩, ((hnew x).mp hx).2.1⟩
          have hle := untraversed_cons_le (nexts A) trav hd
          exact ih _ _ _ (by rw [List.length_append]; omega) (h.take ⟨hg, hcond.1, hcond.2⟩ hnew)
        · rename_i hcond
          refine ih _ _ _ (by omega) (h.drop fun e he => hcond ?_)
          simp [Option.some.inj (hg.symm.trans he.1), he.2.1, he.2.2]

theorem mem_difference (A headsA : OMap) (L : Log) (e : Entry) :
    e ∈ difference A headsA L ↔ Taken A L (headsA.map (·.hash)) e :=
  diffLoop_spec A L _ _ _ _ _
    (by have := untraversed_le (nexts A) []; simp only [List.length_map]; omega)
    ⟨List.forall_mem_nil _, fun _ h => .inl h, fun _ h => .inl h, List.forall_mem_nil _,
      List.forall_mem_nil _⟩ e

theorem difference_item (A headsA : OMap) (L : Log) :
    ∀ e ∈ difference A headsA L, e ∈ A ∧ has L.entries e.hash = false ∧ e.logId = L.id :=
  fun e he =>
    have h := ((mem_difference A headsA L e).mp he).takes
    ⟨(get_some h.1).1, h.2⟩

theorem difference_why (A headsA : OMap) (L : Log) : ∀ e ∈ difference A headsA L,
    e.hash ∈ headsA.map (·.hash) ∨ ∃ p ∈ difference A headsA L, e.hash ∈ p.next := by
  intro e he
  cases (mem_difference A headsA L e).mp he with
  | head hh ht => exact .inl (ht.hash ▸ hh)
  | link hp hn ht => exact .inr ⟨_, (mem_difference A headsA L _).mpr hp, ht.hash ▸ hn⟩

end Orbit
