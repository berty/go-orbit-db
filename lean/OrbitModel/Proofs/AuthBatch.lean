import OrbitModel.Proofs.Auth
/-!
# C10 (store part): a rejected log in a batch never prevents the valid ones from being merged

The replicator (`batchSize = 1`) hands `replicationLoadComplete` one single-entry log `([e],[e])`
per fetched entry.  The repaired `joinAll` skips a rejected log and goes on; so every acceptable
entry of this log id in the batch ends up held, wherever the rejected logs are.
-/
namespace Orbit

theorem difference_single_skip (e : Entry) (L : Log)
    (h : has L.entries e.hash = true ∨ e.logId ≠ L.id) : difference [e] [e] L = [] := by
  apply List.eq_nil_iff_forall_not_mem.mpr
  intro x hx
  obtain ⟨hm, hheld, hid⟩ := difference_item _ _ _ x hx
  rw [List.mem_singleton.mp hm] at hheld hid
  rcases h with h | h
  · rw [h] at hheld; cases hheld
  · exact h hid

theorem join_single {ca : Entry → Bool} (L : Log) (e : Entry) (hid : e.logId = L.id)
    (hacc : acceptable ca e = true) :
    ∃ L', join ca L [e] [e] L.id = .ok L' ∧ has L'.entries e.hash = true := by
  have hj := join_ok_of_acceptable (ca := ca) L [e] [e] fun x hx => by
    rw [List.mem_singleton.mp (difference_item _ _ _ x hx).1]; exact hacc
  refine ⟨_, hj, ?_⟩
  cases hheld : has L.entries e.hash
  · obtain ⟨z, hz, hzh⟩ := merge_has_right L.entries _ e ((mem_difference [e] [e] L e).mpr
      (.head List.mem_cons_self ⟨by simp [get], hheld, hid⟩))
    exact (has_iff _ _).mpr ⟨z, by rw [joinCore_eq _ _ _ _ rfl]; exact hz, hzh⟩
  · exact has_mono (join_mono hj) hheld

/-- **C10 (store part).** Every acceptable entry of this log that the batch contains as a
single-entry log is held after `replicationLoadComplete` — merged, or held already — whatever other
logs (rejected or not, of any shape) the batch contains and wherever they stand. -/
theorem joinAll_accepts (acl : Acl) (logs : List (OMap × OMap)) :
    ∀ (L : Log) (e : Entry), ([e], [e]) ∈ logs → e.logId = L.id →
      acceptable acl.canAppend e = true → has (joinAll acl L logs).entries e.hash = true := by
  induction logs with
  | nil => intro L e hm; simp at hm
  | cons p rest ih =>
    intro L e hm hid hacc
    rcases List.mem_cons.mp hm with rfl | hr
    · obtain ⟨L', hj, hh⟩ := join_single (ca := acl.canAppend) L e hid hacc
      rw [joinAll_cons, hj]
      exact has_mono (joinAll_extends acl rest L').mono hh
    · -- the log of `e` comes later: whatever happens to this one, the log id is unchanged
      obtain ⟨es, hs⟩ := p
      rw [joinAll_cons]
      cases hj : join acl.canAppend L es hs L.id with
      | error err => exact ih L e hr hid hacc
      | ok L' => exact ih L' e hr (by rw [hid, join_id hj]) hacc

theorem joinAll_accepts_mem {U : List Entry} (hU : HashDet U) (acl : Acl) (logs : List (OMap × OMap))
    (L : Log) (e : Entry) (heU : e ∈ U) (hsub : ∀ x ∈ (joinAll acl L logs).entries, x ∈ U)
    (hm : ([e], [e]) ∈ logs) (hid : e.logId = L.id) (hacc : acceptable acl.canAppend e = true) :
    e ∈ (joinAll acl L logs).entries := by
  exact mem_of_has hU hsub heU (joinAll_accepts acl logs L e hm hid hacc)

theorem joinAll_skips (acl : Acl) (L : Log) (es hs : OMap) (rest : List (OMap × OMap)) (err : Err)
    (h : join acl.canAppend L es hs L.id = .error err) :
    joinAll acl L ((es, hs) :: rest) = joinAll acl L rest := by
  rw [joinAll_cons, h]

end Orbit
