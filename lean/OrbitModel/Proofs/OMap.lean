import OrbitModel.Model.Log
/-!
# Ordered-map lemmas (`has`, `get`, `set`, `merge`, `ofList`, `nexts`, `findHeads`), `HashDet`, `NextClosed`
-/
namespace Orbit

theorem has_iff (m : OMap) (h : Nat) : has m h = true ↔ ∃ e ∈ m, e.hash = h := by
  simp [has, List.any_eq_true]

theorem has_of_mem {m : OMap} {e : Entry} (h : e ∈ m) : has m e.hash = true :=
  (has_iff m e.hash).mpr ⟨e, h, rfl⟩

theorem has_false_iff (m : OMap) (h : Nat) : has m h = false ↔ ∀ e ∈ m, e.hash ≠ h := by
  rw [← Bool.not_eq_true, has_iff]; simp

theorem has_mono {m m' : OMap} (hsub : ∀ e ∈ m, e ∈ m') {h : Nat} (hh : has m h = true) :
    has m' h = true := by
  obtain ⟨y, hy, hyh⟩ := (has_iff _ _).mp hh
  exact (has_iff _ _).mpr ⟨y, hsub y hy, hyh⟩

theorem get_some {m : OMap} {h : Nat} {e : Entry} (hg : get m h = some e) : e ∈ m ∧ e.hash = h := by
  unfold get at hg
  exact ⟨List.mem_of_find?_eq_some hg, by simpa using List.find?_some hg⟩

theorem get_mem {m : OMap} {h : Nat} {e : Entry} (hg : get m h = some e) : e ∈ m := (get_some hg).1

theorem exists_get_of_mem {m : OMap} {e : Entry} (he : e ∈ m) : ∃ e', get m e.hash = some e' := by
  unfold get
  cases hf : m.find? (fun x => x.hash == e.hash) with
  | some e' => exact ⟨e', rfl⟩
  | none =>
    have := List.find?_eq_none.mp hf e he
    simp at this

theorem mem_set (m : OMap) (e x : Entry) : x ∈ set m e ↔ x ∈ m ∨ (x = e ∧ has m e.hash = false) := by
  unfold set
  cases hh : has m e.hash <;> simp

theorem mem_nexts (m : OMap) (h : Nat) : h ∈ nexts m ↔ ∃ e ∈ m, h ∈ e.next := by
  simp [nexts, List.mem_flatMap]

theorem nexts_append (a b : OMap) : nexts (a ++ b) = nexts a ++ nexts b := by
  simp [nexts]

theorem mem_findHeads (m : OMap) (e : Entry) : e ∈ findHeads m ↔ e ∈ m ∧ e.hash ∉ nexts m := by
  simp [findHeads, List.mem_filter]

theorem mem_merge_of_left (a b : OMap) (x : Entry) (hx : x ∈ a) : x ∈ merge a b :=
  List.foldlRecOn b set hx fun m hm e _ => (mem_set m e x).mpr (.inl hm)

theorem mem_or_mem_of_mem_merge (a b : OMap) (x : Entry) (hx : x ∈ merge a b) : x ∈ a ∨ x ∈ b :=
  List.foldlRecOn (motive := fun m => x ∈ m → x ∈ a ∨ x ∈ b) b set .inl
    (fun m hm e he hx => ((mem_set m e x).mp hx).elim hm fun h => .inr (h.1 ▸ he)) hx

theorem merge_has_right (a b : OMap) (x : Entry) (hx : x ∈ b) : ∃ y ∈ merge a b, y.hash = x.hash := by
  unfold merge
  induction b generalizing a with
  | nil => simp at hx
  | cons z zs ih =>
    rcases List.mem_cons.mp hx with rfl | hx
    · show ∃ y ∈ List.foldl set (set a x) zs, y.hash = x.hash
      cases hh : has a x.hash
      · have : x ∈ set a x := (mem_set a x x).mpr (Or.inr ⟨rfl, hh⟩)
        exact ⟨x, mem_merge_of_left _ zs x this, rfl⟩
      · obtain ⟨y, hy, hyh⟩ := (has_iff a x.hash).mp hh
        exact ⟨y, mem_merge_of_left _ zs y ((mem_set a x y).mpr (Or.inl hy)), hyh⟩
    · exact ih (set a z) hx

theorem nodup_set {m : OMap} (e : Entry) (h : m.Nodup) : (set m e).Nodup := by
  unfold set
  split
  · exact h
  · rename_i hh
    refine List.nodup_append.mpr ⟨h, List.nodup_cons.mpr ⟨List.not_mem_nil, .nil⟩, fun a ha b hb hab => hh ?_⟩
    exact (has_iff m e.hash).mpr ⟨a, ha, hab ▸ List.mem_singleton.mp hb ▸ rfl⟩

theorem nodup_merge {a : OMap} (b : OMap) (h : a.Nodup) : (merge a b).Nodup :=
  List.foldlRecOn b set h fun _ hm e _ => nodup_set e hm

/-- hash determinism: within the universe, the hash names the entry -/
def HashDet (U : List Entry) : Prop := ∀ e ∈ U, ∀ e' ∈ U, e.hash = e'.hash → e = e'

theorem mem_of_has {U : List Entry} (hU : HashDet U) {m : OMap} (hm : ∀ x ∈ m, x ∈ U) {e : Entry} (he : e ∈ U)
    (h : has m e.hash = true) : e ∈ m := by
  obtain ⟨y, hy, hye⟩ := (has_iff _ _).mp h
  exact hU y (hm y hy) e he hye ▸ hy

theorem get_of_mem {U : List Entry} (hU : HashDet U) {m : OMap} (hm : ∀ e ∈ m, e ∈ U)
    {e : Entry} (he : e ∈ m) : get m e.hash = some e := by
  obtain ⟨e', hg⟩ := exists_get_of_mem he
  obtain ⟨h1, h2⟩ := get_some hg
  rw [hg, hU e' (hm e' h1) e (hm e he) h2]

theorem mem_merge_of_right {U : List Entry} (hU : HashDet U) (a b : OMap)
    (ha : ∀ e ∈ a, e ∈ U) (hb : ∀ e ∈ b, e ∈ U) (x : Entry) (hx : x ∈ b) : x ∈ merge a b := by
  obtain ⟨y, hy, hyh⟩ := merge_has_right a b x hx
  exact hU y ((mem_or_mem_of_mem_merge a b y hy).elim (ha y) (hb y)) x (hb x hx) hyh ▸ hy

theorem mem_merge_iff {U : List Entry} (hU : HashDet U) (a b : OMap)
    (ha : ∀ e ∈ a, e ∈ U) (hb : ∀ e ∈ b, e ∈ U) (x : Entry) : x ∈ merge a b ↔ x ∈ a ∨ x ∈ b :=
  ⟨mem_or_mem_of_mem_merge a b x, fun h => h.elim (mem_merge_of_left a b x) (mem_merge_of_right hU a b ha hb x)⟩

theorem ofList_eq_merge (l : List Entry) : ofList l = merge [] l := rfl

theorem mem_ofList {U : List Entry} (hU : HashDet U) {l : List Entry} (hl : ∀ e ∈ l, e ∈ U)
    (x : Entry) : x ∈ ofList l ↔ x ∈ l := by
  rw [ofList_eq_merge, mem_merge_iff hU [] l (fun e he => by cases he) hl x]
  simp

theorem ofList_nodup (l : List Entry) : (ofList l).Nodup := by
  rw [ofList_eq_merge]
  exact nodup_merge l List.nodup_nil

theorem mem_of_mem_ofList {l : List Entry} {x : Entry} (hx : x ∈ ofList l) : x ∈ l := by
  rw [ofList_eq_merge] at hx
  rcases mem_or_mem_of_mem_merge [] l x hx with h | h
  · cases h
  · exact h

/-- what a walk along `next` links cannot leave: a closed log's hashes, what recovery reaches, what is held or
taken by `difference` -/
def NextClosed (U : List Entry) (S : Nat → Prop) : Prop := ∀ p ∈ U, S p.hash → ∀ n ∈ p.next, S n

theorem NextClosed.sub {U A : List Entry} {S : Nat → Prop} (h : NextClosed U S) (hA : ∀ e ∈ A, e ∈ U) :
    NextClosed A S := fun p hp => h p (hA p hp)

end Orbit
