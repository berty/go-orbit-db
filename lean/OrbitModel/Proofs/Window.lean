import OrbitModel.Spec.Replay
/-!
# Range queries of the event log store: the Go `query`/`read` against the window a user expects

`queryWinOps` is the line-by-line model (forward read for gt/gte; reverse, read, reverse for
lt/lte/none) over a log that may hold entries which are not operations; `windowSpecOps` is the window
of operations a user expects.  `queryWin` / `windowSpec` are the same over a log of operations only,
the case `isOp = fun _ => true`.

**Finding.**  The two agree exactly when the options do not *clash* (`NoClash`): the Go code takes
the bound from `GT` (resp. `LT`) but the inclusive flag from `GTE != nil` (resp. `LTE != nil`), so
with both `GT` and `GTE` set (resp. `LT` and `LTE`, no lower bound) the read is *inclusive* at the
`GT` (resp. `LT`) hash, while the spec (precedence gt > gte > lt > lte) is exclusive.
`C08.window_iff_single_bound` shows that under `HashNodup` and `boundOk` this is the only
disagreement; `queryWin_corner_gt_gte`, `queryWin_corner_lt_lte` are the `decide` witnesses.
-/
namespace Orbit

def HashNodup (L : List Entry) : Prop := (L.map (·.hash)).Nodup

/-- every bound that is set is the hash of some entry of `L` (for a hash that is not in the log the
Go code falls back to index 0; excluded here) -/
def boundOk (L : List Entry) (o : StreamOpts) : Prop :=
  ∀ h, (o.gt = some h ∨ o.gte = some h ∨ o.lt = some h ∨ o.lte = some h) → ∃ e ∈ L, e.hash = h

def NoClash (o : StreamOpts) : Prop :=
  (o.gt.isSome = true → o.gte = none) ∧
  (o.gt = none → o.gte = none → o.lt.isSome = true → o.lte = none)

instance (o : StreamOpts) : Decidable (NoClash o) := by unfold NoClash; exact inferInstance

theorem hashNodup_reverse {L : List Entry} (hnd : HashNodup L) : HashNodup L.reverse := by
  unfold HashNodup at *
  rw [List.map_reverse]
  exact List.pairwise_reverse.mpr (hnd.imp Ne.symm)

theorem hashNodup_split {L : List Entry} (hnd : HashNodup L) {e : Entry} (he : e ∈ L) :
    ∃ a b, L = a ++ e :: b ∧ (∀ x ∈ a, x.hash ≠ e.hash) ∧ (∀ x ∈ b, x.hash ≠ e.hash) := by
  obtain ⟨a, b, rfl⟩ := List.append_of_mem he
  unfold HashNodup at hnd
  rw [List.map_append, List.map_cons, List.nodup_append, List.nodup_cons] at hnd
  obtain ⟨-, ⟨hb, -⟩, hab⟩ := hnd
  exact ⟨a, b, rfl, fun x hx => hab _ (List.mem_map_of_mem hx) _ List.mem_cons_self,
    fun x hx h => hb (h ▸ List.mem_map_of_mem hx)⟩

theorem findIdx?_hash_split {a : List Entry} {e : Entry} (b : List Entry)
    (ha : ∀ x ∈ a, x.hash ≠ e.hash) :
    (a ++ e :: b).findIdx? (fun x => x.hash == e.hash) = some a.length := by
  rw [List.findIdx?_append, List.findIdx?_eq_none_iff.mpr (fun x hx => beq_eq_false_iff_ne.mpr (ha x hx)),
    List.findIdx?_cons, beq_self_eq_true]
  simp

theorem take_reverse_filter (p : Entry → Bool) (l : List Entry) (n : Nat) :
    ((l.reverse.filter p).take n).reverse = (l.filter p).drop ((l.filter p).length - n) := by
  rw [List.filter_reverse, List.take_reverse, List.reverse_reverse]

/-- the bound splits the log, `a ++ e :: b`; reversed, the same entry splits it the other way round -/
theorem readWinOps_reverse (p : Entry → Bool) {a b : List Entry} {e : Entry}
    (hb : ∀ x ∈ b, x.hash ≠ e.hash) (n : Nat) (inc : Bool) :
    (readWinOps p (a ++ e :: b).reverse (some e.hash) n inc).reverse =
      ((if inc then a ++ [e] else a).filter p).drop
        (((if inc then a ++ [e] else a).filter p).length - n) := by
  have hr : (a ++ e :: b).reverse = b.reverse ++ e :: a.reverse := by simp
  unfold readWinOps
  dsimp only
  rw [hr, findIdx?_hash_split _ (fun x hx => hb x (List.mem_reverse.mp hx))]
  cases inc
  · rw [if_neg Bool.false_ne_true, if_neg Bool.false_ne_true, List.drop_length_add_append]
    exact take_reverse_filter p a n
  · rw [if_pos rfl, if_pos rfl, List.drop_left, show e :: a.reverse = (a ++ [e]).reverse by simp]
    exact take_reverse_filter p _ n

/-- **The Go `query` returns the specified window of operations**, whatever else the log holds and
whether or not the bound is an operation. `NoClash` cannot be dropped (`C08.window_iff_single_bound`);
the lower bounds (`gt`, `gte`) need neither `hnd` nor `hb`. -/
theorem queryWinOps_eq_windowSpecOps (p : Entry → Bool) (L : List Entry) (o : StreamOpts)
    (hnd : HashNodup L) (hb : boundOk L o) (hc : NoClash o) :
    queryWinOps p L o = windowSpecOps p L o := by
  obtain ⟨gt, gte, lt, lte, am⟩ := o
  obtain ⟨hc1, hc2⟩ := hc
  -- an upper bound splits the log
  have cut : ∀ h, lt = some h ∨ lte = some h → ∃ a e b, L = a ++ e :: b ∧ e.hash = h ∧
      (∀ x ∈ a, x.hash ≠ e.hash) ∧ (∀ x ∈ b, x.hash ≠ e.hash) := by
    intro h hh
    obtain ⟨e, he, rfl⟩ := hb h (Or.inr (Or.inr hh))
    obtain ⟨a, b, hL, ha, hb'⟩ := hashNodup_split hnd he
    exact ⟨a, e, b, hL, rfl, ha, hb'⟩
  cases gt with
  | some h =>
    cases hc1 rfl
    unfold queryWinOps readWinOps windowSpecOps
    dsimp only
    cases L.findIdx? (fun e => e.hash == h) <;> rfl
  | none =>
    cases gte with
    | some h =>
      unfold queryWinOps readWinOps windowSpecOps
      dsimp only
      cases L.findIdx? (fun e => e.hash == h) <;> rfl
    | none =>
      cases lt with
      | some h =>
        cases hc2 rfl rfl rfl
        obtain ⟨a, e, b, rfl, rfl, ha, hb⟩ := cut h (Or.inl rfl)
        unfold queryWinOps windowSpecOps
        dsimp only
        rw [findIdx?_hash_split b ha, Option.getD_some, List.take_left]
        exact readWinOps_reverse p hb _ false
      | none =>
        cases lte with
        | some h =>
          obtain ⟨a, e, b, rfl, rfl, ha, hb⟩ := cut h (Or.inr rfl)
          unfold queryWinOps windowSpecOps
          dsimp only
          rw [findIdx?_hash_split b ha, Option.getD_some,
            List.take_length_add_append]
          exact readWinOps_reverse p hb _ true
        | none => exact take_reverse_filter p L _

theorem queryWinOps_all_ops (p : Entry → Bool) (L : List Entry) (o : StreamOpts)
    (hall : ∀ e ∈ L, p e = true) : queryWinOps p L o = queryWin L o := by
  have key : ∀ (l : List Entry) c n inc, (∀ e ∈ l, p e = true) →
      readWinOps p l c n inc = readWin l c n inc := by
    intro l c n inc hl
    unfold readWinOps readWin
    dsimp only
    congr 1
    exact List.filter_eq_self.mpr (fun e he => hl e (List.mem_of_mem_drop he))
  unfold queryWinOps queryWin
  dsimp only
  split
  · exact key _ _ _ _ hall
  · rw [key _ _ _ _ (fun e he => hall e (List.mem_reverse.mp he))]

theorem lastN_take_all_ops {p : Entry → Bool} {L : List Entry} (hall : ∀ e ∈ L, p e = true) (n : Nat)
    {t : Nat} (ht : t ≤ L.length) :
    ((L.take t).filter p).drop (((L.take t).filter p).length - n) = (L.take t).drop (t - n) := by
  rw [List.filter_eq_self.mpr (fun e he => hall e (List.mem_of_mem_take he)), List.length_take,
    Nat.min_eq_left ht]

theorem windowSpecOps_all_ops (p : Entry → Bool) (L : List Entry) (o : StreamOpts)
    (hall : ∀ e ∈ L, p e = true) : windowSpecOps p L o = windowSpec L o := by
  have f : ∀ s, (L.drop s).filter p = L.drop s := fun s =>
    List.filter_eq_self.mpr (fun e he => hall e (List.mem_of_mem_drop he))
  have hidx : ∀ h, L ≠ [] → (L.findIdx? (fun e => e.hash == h)).getD 0 < L.length := by
    intro h hL
    cases hi : L.findIdx? (fun e => e.hash == h) with
    | none => exact List.length_pos_iff.mpr hL
    | some i => exact (List.findIdx?_eq_some_iff_getElem.mp hi).1
  obtain ⟨gt, gte, lt, lte, am⟩ := o
  cases gt with
  | some h => simp only [windowSpecOps, windowSpec, f]
  | none =>
    cases gte with
    | some h => simp only [windowSpecOps, windowSpec, f]
    | none =>
      cases lt with
      | some h =>
        by_cases hL : L = []
        · subst hL; rfl
        · exact lastN_take_all_ops hall _ (Nat.le_of_lt (hidx h hL))
      | none =>
        cases lte with
        | some h =>
          by_cases hL : L = []
          · subst hL; simp [windowSpecOps, windowSpec]
          · exact lastN_take_all_ops hall _ (hidx h hL)
        | none => exact congrArg (fun x => List.drop (List.length x - _) x) (List.filter_eq_self.mpr hall)

/-- `GT` and `GTE` both set: Go reads inclusively from the `GT` hash, the spec excludes it -/
theorem queryWin_corner_gt_gte :
    let x : Entry := { hash := 1, logId := 0, time := 1, cid := 0, next := [] }
    let y : Entry := { hash := 2, logId := 0, time := 2, cid := 0, next := [1] }
    let o : StreamOpts := { gt := some 1, gte := some 1, amount := some (-1) }
    HashNodup [x, y] ∧ boundOk [x, y] o ∧
      queryWin [x, y] o = [x, y] ∧ windowSpec [x, y] o = [y] := by
  refine ⟨by unfold HashNodup; decide, ?_, by decide, by decide⟩
  intro h hh
  simp only [Option.some.injEq, reduceCtorEq, or_false, or_self] at hh
  exact ⟨_, List.mem_cons_self, hh⟩

/-- `LT` and `LTE` both set (no lower bound): Go reads inclusively up to the `LT` hash -/
theorem queryWin_corner_lt_lte :
    let x : Entry := { hash := 1, logId := 0, time := 1, cid := 0, next := [] }
    let y : Entry := { hash := 2, logId := 0, time := 2, cid := 0, next := [1] }
    let o : StreamOpts := { lt := some 2, lte := some 2, amount := some (-1) }
    HashNodup [x, y] ∧ boundOk [x, y] o ∧
      queryWin [x, y] o = [x, y] ∧ windowSpec [x, y] o = [x] := by
  refine ⟨by unfold HashNodup; decide, ?_, by decide, by decide⟩
  intro h hh
  simp only [Option.some.injEq, reduceCtorEq, false_or, or_self] at hh
  exact ⟨_, List.mem_cons_of_mem _ List.mem_cons_self, hh⟩

theorem normAmount_pos {a : Option Int} {len : Nat} (h : 0 < len) : 0 < normAmount a len := by
  unfold normAmount
  split
  · exact Nat.one_pos
  · next a =>
    split
    · exact Nat.one_pos
    · next h0 =>
      have h0 : a ≠ 0 := fun e => h0 (beq_iff_eq.mpr e)
      split
      · omega
      · exact h

/-- one starts with the bound, the other holds only entries behind it -/
theorem readWin_inclusive_ne {ops : List Entry} (hnd : HashNodup ops) {e : Entry} (he : e ∈ ops)
    {n : Nat} (hn : 0 < n) :
    readWin ops (some e.hash) n true ≠ readWin ops (some e.hash) n false := by
  obtain ⟨a, b, rfl, ha, hb⟩ := hashNodup_split hnd he
  obtain ⟨m, rfl⟩ : ∃ m, n = m + 1 := ⟨n - 1, by omega⟩
  unfold readWin
  dsimp only
  rw [findIdx?_hash_split b ha, if_pos rfl, if_neg Bool.false_ne_true, List.drop_left,
    List.drop_length_add_append]
  intro heq
  have : e ∈ (b.take (m + 1)) := heq ▸ List.mem_cons_self
  exact hb e (List.mem_of_mem_take this) rfl

theorem readWin_infix (ops : List Entry) (c : Option Nat) (n : Nat) (inc : Bool) :
    readWin ops c n inc <:+: ops := by
  unfold readWin
  exact (List.take_prefix _ _).isInfix.trans (List.drop_suffix _ _).isInfix

theorem queryWin_infix (L : List Entry) (o : StreamOpts) : queryWin L o <:+: L := by
  unfold queryWin
  split
  · exact readWin_infix _ _ _ _
  · exact List.reverse_infix.mp (by rw [List.reverse_reverse]; exact readWin_infix _ _ _ _)

theorem queryWin_sublist (L : List Entry) (o : StreamOpts) : (queryWin L o).Sublist L :=
  (queryWin_infix L o).sublist

theorem queryWin_none (L : List Entry) (o : StreamOpts) (hgt : o.gt = none) (hgte : o.gte = none)
    (hlt : o.lt = none) (hlte : o.lte = none) :
    queryWin L o = L.drop (L.length - normAmount o.amount L.length) := by
  unfold queryWin readWin
  simp only [hgt, hgte, hlt, hlte, Option.isSome_none, Option.isNone_none, Bool.or_false, Bool.or_true,
    Bool.false_eq_true, if_false, if_true, List.drop_zero, List.take_reverse, List.reverse_reverse]

theorem windowSpec_none (L : List Entry) (o : StreamOpts) (hgt : o.gt = none) (hgte : o.gte = none)
    (hlt : o.lt = none) (hlte : o.lte = none) :
    windowSpec L o = L.drop (L.length - normAmount o.amount L.length) := by
  unfold windowSpec; simp only [hgt, hgte, hlt, hlte]

end Orbit
