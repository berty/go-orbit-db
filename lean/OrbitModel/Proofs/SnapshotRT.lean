import OrbitModel.Proofs.SnapshotRace
/-!
# `SaveSnapshot` then `LoadFromSnapshot` gives the log back   (C13)

`save_load` is the racing save (`saveRacing_load`) with nothing racing, so the codec hypotheses are asked
only of what is actually saved. The rest is a concrete fork saved and loaded with a toy codec.
-/
namespace Orbit.Snap

theorem save_load {U : List Entry} {acl : Acl} {ser : Entry → List Nat} {serHeader : Image → List Nat}
    {de : List Nat → Option Entry} {deHeader : List Nat → Option (Nat × List Entry × Nat)}
    {L : Log} {bs : List Nat}
    (hde : ∀ e ∈ L.entries, de (ser e) = some e)
    (hdh : deHeader (serHeader (imageOf L)) = some (L.id, sortedHeads L, L.entries.length))
    (hU : HashDet U) (hT : TieFree U) (hM : ClockMono U) (hG : Good U L)
    (hacc : ∀ e ∈ L.entries, acl.canAppend e = true ∧ e.sigOk = true)
    (hid : ∀ e ∈ L.entries, e.logId = L.id)
    (hs : save ser serHeader L = some bs) :
    ∃ L', load acl de deHeader bs = some L' ∧ (∀ e, e ∈ L'.entries ↔ e ∈ L.entries) ∧
      values L' = values L ∧ sortedHeads L' = sortedHeads L :=
  saveRacing_load (x := []) (y := []) hde hdh hU hT hM hG hacc (List.append_nil _).symm
    (List.append_nil _).symm (fun _ h => nomatch h) hid (fun _ _ _ h => nomatch h) hs

end Orbit.Snap

namespace Orbit.Snap.Example

def a : Entry := { hash := 1, logId := 9, time := 1, cid := 0, next := [] }
def b : Entry := { hash := 2, logId := 9, time := 2, cid := 0, next := [1] }
def c : Entry := { hash := 3, logId := 9, time := 2, cid := 1, next := [1] }
def U : List Entry := [a, b, c]
def acl : Acl := { wildcard := true }

theorem hU : HashDet U := by unfold HashDet; decide
theorem hT : TieFree U := by unfold TieFree; decide
theorem hM : ClockMono U := by unfold ClockMono; decide

def okOr (x : Except Err Log) (d : Log) : Log := match x with | .ok l => l | .error _ => d

def L1 : Log := (append acl.canAppend (Log.empty 9) (fun _ _ => a)).1
def L2 : Log := (append acl.canAppend L1 (fun _ _ => b)).1
/-- this replica wrote `a`, `b` and merged the concurrent `c`: heads `c`, `b` -/
def L3 : Log := okOr (join acl.canAppend L2 [a, c] [c] 9) L2

theorem reach_L1 : Reachable acl.canAppend U 9 L1 :=
  .step .empty (.appendOk (Log.empty 9) (fun _ _ => a) (by decide) (by decide) (by decide) (by decide) rfl)

theorem reach_L3 : Reachable acl.canAppend U 9 L3 := by
  have h2 : Reachable acl.canAppend U 9 L2 :=
    .step reach_L1 (.appendOk L1 (fun _ _ => b) (by decide) (by decide) (by decide) (by decide) rfl)
  exact .step h2 (.join L2 L3 [a, c] [c] 9 ⟨by decide, by decide⟩ (by decide) rfl)

/-- toy codec: an entry is its hash; the header is id, size, head hashes -/
def ser (e : Entry) : List Nat := [e.hash]
def lookup : Nat → Option Entry
  | 1 => some a | 2 => some b | 3 => some c | _ => none
def de : List Nat → Option Entry
  | [h] => lookup h
  | _ => none
def serHeader (img : Image) : List Nat := img.id :: img.entries.length :: img.heads.map (·.hash)
def deHeader : List Nat → Option (Nat × List Entry × Nat)
  | id :: n :: hs => (hs.mapM lookup).map (fun heads => (id, heads, n))
  | _ => none

/-- the snapshot bytes: header record, three entry records, trailing zero -/
example : save ser serHeader L3 = some [0, 4, 9, 3, 3, 2,  0, 1, 1,  0, 1, 2,  0, 1, 3,  0] := by decide +kernel

/-- the insertion order of the entry map is NOT kept (`difference` walks from the heads: newest first) -/
example : ((save ser serHeader L3).bind (load acl de deHeader)).map
      (fun l => (l.id, l.entries, values l, sortedHeads l)) =
    some (9, [c, b, a], [a, b, c], [c, b]) := by decide +kernel

example : L3.entries = [a, b, c] ∧ values L3 = [a, b, c] ∧ sortedHeads L3 = [c, b] := by decide +kernel

example : ∃ L', load acl de deHeader [0, 4, 9, 3, 3, 2,  0, 1, 1,  0, 1, 2,  0, 1, 3,  0] = some L' ∧
    (∀ e, e ∈ L'.entries ↔ e ∈ L3.entries) ∧ values L' = values L3 ∧
    sortedHeads L' = sortedHeads L3 :=
  save_load (U := U) (ser := ser) (serHeader := serHeader) (by decide) (by decide) hU hT hM
    (reachable_good hU hM reach_L3) (by decide) (by decide) (by decide)

end Orbit.Snap.Example
