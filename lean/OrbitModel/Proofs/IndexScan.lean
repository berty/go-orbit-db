import OrbitModel.Proofs.KvLemmas
/-!
# The generic index theorem

`W : Entry → List Wr` says which atomic writes an entry stands for. `scanW` is the Go index loop
(newest → oldest, `handled` set, mutating the index it is handed), `replayW` the specification (oldest →
newest from the empty map). They agree when every entry's writes have distinct keys and every
key of the old index is written by some entry of the listing.
-/
namespace Orbit

def scanW (W : Entry → List Wr) (idx : KV) (vs : List Entry) : KV :=
  ((vs.reverse.flatMap W).foldl wStep ([], idx)).2

def replayW (W : Entry → List Wr) (vs : List Entry) : KV := (vs.flatMap W).foldl applyW []

def writesW (W : Entry → List Wr) (vs : List Entry) (k : String) : Prop :=
  ∃ e ∈ vs, k ∈ (W e).map (·.1)

def NodupW (W : Entry → List Wr) (vs : List Entry) : Prop := ∀ e ∈ vs, ((W e).map (·.1)).Nodup

/-- `none`: `k` is never written; `some none`: the last write of `k` deletes it -/
def lastW (W : Entry → List Wr) (vs : List Entry) (k : String) : Option (Option String) :=
  firstW (vs.flatMap W).reverse k

theorem foldl_eq_flat {β : Type} (step : β → Entry → β) (g : β → Wr → β) (W : Entry → List Wr)
    (l : List Entry) (acc : β) (h : ∀ e ∈ l, ∀ acc, step acc e = (W e).foldl g acc) :
    l.foldl step acc = (l.flatMap W).foldl g acc := by
  induction l generalizing acc with
  | nil => rfl
  | cons e es ih =>
    rw [List.foldl_cons, List.flatMap_cons, List.foldl_append, h e List.mem_cons_self]
    exact ih _ (fun x hx => h x (List.mem_cons_of_mem _ hx))

theorem get_replayW (W : Entry → List Wr) (vs : List Entry) (k : String) :
    KV.get (replayW W vs) k = (lastW W vs k).getD none := by
  unfold replayW lastW
  rw [List.foldl_eq_foldr_reverse, get_foldr_applyW, KV.get_nil]

theorem get_scanW (W : Entry → List Wr) (idx : KV) (vs : List Entry) (hnd : NodupW W vs)
    (k : String) : KV.get (scanW W idx vs) k = (lastW W vs k).getD (KV.get idx k) := by
  unfold scanW lastW
  rw [get_foldl_wStep]
  simp only [List.not_mem_nil, if_false]
  congr 1
  -- both sides go through the entries newest first; within one entry the loop takes the writes
  -- forwards, `lastW` backwards, which finds the same write as the entry's keys are distinct
  rw [List.reverse_flatMap]
  apply firstW_flatMap_congr
  intro e he
  exact (firstW_reverse (hnd e (List.mem_reverse.mp he)) k).symm

theorem lastW_eq_none {W : Entry → List Wr} {vs : List Entry} {k : String} :
    lastW W vs k = none ↔ ¬ writesW W vs k := by
  unfold lastW writesW
  rw [firstW_eq_none, List.map_reverse, List.mem_reverse, List.map_flatMap, List.mem_flatMap]

theorem scanW_eq_replayW (W : Entry → List Wr) (idx : KV) (vs : List Entry) (hnd : NodupW W vs)
    (hpre : ∀ k, (KV.get idx k).isSome → writesW W vs k) :
    KV.equiv (scanW W idx vs) (replayW W vs) := by
  intro k
  rw [get_scanW W idx vs hnd, get_replayW]
  cases hl : lastW W vs k with
  | some x => rfl
  | none =>
    cases hg : KV.get idx k with
    | none => rfl
    | some v => exact absurd (hpre k (by rw [hg]; rfl)) (lastW_eq_none.mp hl)

/-- the listing has grown from `vs` to `vs'`: scanning the new listing over the old index gives the new replay -/
theorem scanW_inv_step (W : Entry → List Wr) (idx : KV) (vs vs' : List Entry) (hnd : NodupW W vs')
    (hinv : KV.equiv idx (replayW W vs)) (hsub : ∀ e ∈ vs, e ∈ vs') :
    KV.equiv (scanW W idx vs') (replayW W vs') := by
  apply scanW_eq_replayW W idx vs' hnd
  intro k hk
  rw [hinv k, get_replayW] at hk
  obtain ⟨e, he, hke⟩ : writesW W vs k :=
    Classical.not_not.mp fun hn => by rw [lastW_eq_none.mpr hn] at hk; cases hk
  exact ⟨e, hsub e he, hke⟩

end Orbit
