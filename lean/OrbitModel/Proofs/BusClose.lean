import OrbitModel.Model.BusClose
/-!
# `Close` of a legacy subscription: stuck before the repair, always gets through after it (F38)
-/
namespace Orbit.BusClose

/-- the state the forwarder left behind before the repair: channel full, the emitter inside `emit` with
events left, nobody reading, `Close` asked for -/
def Stuck (s : St) : Prop :=
  s.chan = s.cap ∧ s.pending > 0 ∧ s.reading = false ∧ s.closing = true ∧ s.closed = false

/-- **before the repair that state is a deadlock**: the emitter cannot send (no room), nobody reads,
`Close` cannot get the lock (the emitter holds it) -/
theorem stuck_forever (s : St) (h : Stuck s) (acts : List Act) : run false s acts = s :=
  List.foldlRecOn (motive := (· = s)) acts _ rfl fun t ht a _ => by
    obtain ⟨h1, h2, h3, h4, h5⟩ := h
    subst ht
    cases a with
    | send => simp [step, h1]
    | recv => simp [step, reads, h3]
    | leave => simp [step, h3]
    | close => simp [step, Nat.ne_of_gt h2]

/-- one round after the repair: the drainer takes an event out, the emitter puts its next one in, and the
channel is full again -/
theorem drain_round (s : St) (hc : s.closing = true) (hd : s.closed = false) (hf : s.chan = s.cap)
    (hcap : s.cap > 0) {n : Nat} (hp : s.pending = n + 1) :
    step true (step true s .recv) .send = { s with pending := n } := by
  obtain ⟨cap, chan, pending, reading, closing, closed⟩ := s
  simp only at hc hd hf hp hcap
  subst hc hd hf hp
  obtain ⟨c, rfl⟩ : ∃ c, chan = c + 1 := ⟨chan - 1, by omega⟩
  simp [step, reads]

theorem unwind_closes : ∀ (n : Nat) (s : St), s.chan = s.cap → s.closing = true → s.closed = false →
    s.cap > 0 → s.pending = n →
    (run true s (unwind n)).closed = true ∧ (run true s (unwind n)).pending = 0
  | 0, s, _, hc, hd, _, hp => by
    simp [run, unwind, step, hc, hd, hp]
  | n+1, s, hf, hc, hd, hcap, hp => by
    rw [show run true s (unwind (n + 1)) = run true (step true (step true s .recv) .send) (unwind n)
      from rfl, drain_round s hc hd hf hcap hp]
    exact unwind_closes n { s with pending := n } hf hc hd hcap rfl

/-- **after the repair `Close` always gets through**: from that very state the drainer lets the
emitter finish and `Close` returns -/
theorem close_gets_through (s : St) (h : Stuck s) (hcap : s.cap > 0) :
    (run true s (unwind s.pending)).closed = true ∧ (run true s (unwind s.pending)).pending = 0 :=
  unwind_closes s.pending s h.1 h.2.2.2.1 h.2.2.2.2 hcap rfl

/-- the hypotheses are met: the forwarder 17 events behind a 16-slot subscription when its context ends -/
example : Stuck { cap := 16, chan := 16, pending := 1, reading := false, closing := true } := by
  unfold Stuck; decide

end Orbit.BusClose
