import OrbitModel.Proofs.EmitterFifo
/-!
# C18 for the legacy channel API: shutdown of `handleSubscriber`

Safety is read off the control-state invariant `Ctl`, which both code versions keep. Liveness of the
repaired code rests on `NoLostWake` (the shutdown signal is sent under the lock): from every reachable
cancelled state the fixed schedule `stopSchedule` closes the channel. In the pinned code the signal,
sent without the lock, can be lost, and no transition leaves the state that results (`Stuck`).
-/
namespace Orbit.Emit
variable {p : Bool} {s t : St} {a : Act}

@[simp] theorem wake_eq_checked {g : G2} : wake g = .checked ↔ g = .checked := by
  cases g <;> simp [wake]
@[simp] theorem wake_eq_exited {g : G2} : wake g = .exited ↔ g = .exited := by
  cases g <;> simp [wake]
@[simp] theorem wake_ne_waiting {g : G2} : wake g ≠ .waiting := by
  cases g <;> simp [wake]

/-- `wait_empty`: between G2's emptiness check and the end of `Wait()` the queue is empty, because a
G1 that enqueues wakes it. -/
structure Ctl (s : St) : Prop where
  closed_done : s.closed = true → s.g1done = true ∧ s.g2 = .exited
  g1done_canc : s.g1done = true → s.cancelled = true
  exited_canc : s.g2 = .exited → s.cancelled = true
  wait_empty  : s.g2 = .checked ∨ s.g2 = .waiting → s.queue = []

/-- the four clauses as one conjunction, so that `simp_all` in `Next.ctl` rewrites them as hypotheses (a
`constructor <;> simp_all` per transition checks three times slower) -/
theorem ctl_iff : Ctl s ↔ (s.closed = true → s.g1done = true ∧ s.g2 = .exited) ∧
    (s.g1done = true → s.cancelled = true) ∧ (s.g2 = .exited → s.cancelled = true) ∧
    (s.g2 = .checked ∨ s.g2 = .waiting → s.queue = []) :=
  ⟨fun ⟨a, b, c, d⟩ => ⟨a, b, c, d⟩, fun ⟨a, b, c, d⟩ => ⟨a, b, c, d⟩⟩

theorem Next.ctl (h : Next p s a t) (hC : Ctl s) : Ctl t := by
  rw [ctl_iff] at *
  cases h with
  | emit | recv | g1direct => exact hC
  | _ => simp_all

theorem ctl_init (cap : Nat) : Ctl (init cap) := by constructor <;> simp [init]

theorem ctl_run (p : Bool) (cap : Nat) (acts : List Act) : Ctl (run p (init cap) acts) :=
  run_inv (fun _ _ _ => Next.ctl) acts (ctl_init cap)

/-- **C18, safety (every schedule, repaired and pinned).** `close(cevent)` happens only after the
forwarder has returned, the drainer has left its loop, and the context has ended. -/
theorem closed_only_after_both_done (p : Bool) (cap : Nat) (acts : List Act) :
    let s := run p (init cap) acts
    s.closed = true → s.g1done = true ∧ s.g2 = .exited ∧ s.cancelled = true := by
  intro s hc
  have h := ctl_run p cap acts
  exact ⟨(h.closed_done hc).1, (h.closed_done hc).2, h.g1done_canc (h.closed_done hc).1⟩

/-- **C18, safety, second half.** After `close(cevent)` the subscriber only drains what the channel
already held: a closed channel has a dead context, and that is all `frozen_run` needs. -/
theorem after_close (p : Bool) (cap : Nat) (acts acts' : List Act) :
    let s := run p (init cap) acts
    s.closed = true →
    let t := run p s acts'
    t.delivered ++ t.chan = s.delivered ++ s.chan ∧ t.emitted = s.emitted :=
  fun hc => frozen_run p acts' (closed_only_after_both_done p cap acts hc).2.2

/-- The signal is sent under the lock, so G1 cannot return while G2 sits between its check and
`Wait()`; and a G2 inside `Wait()` is woken by it. Hence: once G1 is done, G2 is not (about to be)
waiting. -/
def NoLostWake (s : St) : Prop := s.g1done = true → s.g2 ≠ .checked ∧ s.g2 ≠ .waiting

theorem Next.noLostWake (h : Next false s a t) (hC : Ctl s) (hW : NoLostWake s) : NoLostWake t := by
  unfold NoLostWake at *
  have hgc := hC.g1done_canc
  cases h with
  | emit | cancel | recv | g1direct | g2close => exact hW
  | _ => simp_all

theorem noLostWake_run (cap : Nat) (acts : List Act) : NoLostWake (run false (init cap) acts) :=
  (run_inv (P := fun s => Ctl s ∧ NoLostWake s) (fun _ _ _ h hs => ⟨h.ctl hs.1, h.noLostWake hs.1 hs.2⟩)
    acts ⟨ctl_init cap, nofun⟩).2

/-- G2 first (leaves a blocking send / releases the lock by entering `Wait()`), then G1 (signals and
returns), then G2 runs to `close`. -/
def stopSchedule : List Act := [.g2, .g1, .g2, .g2, .g2]

theorem stops_from (s : St) (hW : NoLostWake s) (hc : s.cancelled = true) :
    let t := run false s stopSchedule
    t.g1done = true ∧ t.g2 = .exited ∧ t.closed = true := by
  -- with a dead context the five steps look at nothing but `g2`, `g1done` and `closed`
  obtain ⟨cap, bus, chan, queue, g2, g1done, cancelled, closed, delivered, emitted⟩ := s
  subst hc
  cases g2 <;> cases g1done <;>
    first | exact absurd rfl (hW rfl).1 | exact absurd rfl (hW rfl).2
          | (cases closed <;> simp [stopSchedule, step, g2HoldsLock])

/-- **C18, liveness (repaired code).** From every reachable state in which the context has ended, five
scheduler steps end both goroutines and close the channel. -/
theorem stops (cap : Nat) (acts : List Act) :
    let s := run false (init cap) acts
    s.cancelled = true →
    let t := run false s stopSchedule
    t.g1done = true ∧ t.g2 = .exited ∧ t.closed = true :=
  fun hc => stops_from _ (noLostWake_run cap acts) hc

theorem stops_closed (cap : Nat) (acts : List Act) :
    let s := run false (init cap) acts
    s.cancelled = true → (run false s stopSchedule).closed = true :=
  fun hc => (stops cap acts hc).2.2

/-- G2 checks (live context, empty queue) and is about to `Wait()`; the context ends; G1 signals
without the lock — nobody is waiting yet — and returns; G2 enters `Wait()`. -/
def lostWakeSchedule : List Act := [.g2, .cancel, .g1, .g2, .g2, .g2]

/-- G2 inside `Wait()`, the only signaller gone, channel open -/
def Stuck (s : St) : Prop :=
  s.g2 = .waiting ∧ s.g1done = true ∧ s.cancelled = true ∧ s.closed = false

/-- **pinned defect (finding F14).** -/
theorem pinned_lost_wakeup : Stuck (run true (init 1) lostWakeSchedule) := by
  unfold Stuck; decide

theorem Next.stuck (h : Next p s a t) (hS : Stuck s) : Stuck t := by
  obtain ⟨h1, h2, h3, h4⟩ := hS
  cases h <;> simp_all [Stuck]

/-- the repaired code on the same schedule: G1 is blocked on the lock while G2 is `checked`; one more
round and everything is closed -/
theorem repaired_no_lost_wakeup :
    (run false (init 1) lostWakeSchedule).closed = false ∧
    (run false (init 1) (lostWakeSchedule ++ [.g1, .g2, .g2])).closed = true := by decide

/-- non-vacuity of `stops`: cancelled states with G2 in each of its five program points -/
example : (run false (init 1) [.cancel]).g2 = .top ∧
    (run false (init 1) [.g2, .cancel]).g2 = .checked ∧
    (run false (init 1) [.g2, .g2, .cancel]).g2 = .waiting ∧
    (run false (init 0) [.emit 7, .g1, .g2, .cancel]).g2 = .sending 7 ∧
    (run false (init 1) [.cancel, .g2]).g2 = .exited := by decide

end Orbit.Emit
