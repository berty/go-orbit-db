import OrbitModel.Proofs.Trim
/-!
# `Load(amount)`: the amount normalisation and the size clamp   (C15)

`loadHead0` (one head of `Load` before the F30 repair) joins the log fetched from one cached head and asks
`Join` for a trim only when the merged log would exceed the limit. `Join(size)` panics when `size` exceeds
the number of values.
The clamp counts *fetched entries not held*; `Join` merges only those reachable from the fetched
heads through entries not held. The two agree when the log is closed under `next` (a fresh store),
or when the log already holds `amount` entries; otherwise the clamp over-counts and `Join` can
still panic (`LoadExample.loadHead0_panic_nonclosed`).
-/
namespace Orbit

def effAmount (amount : Int) (maxHistory : Option Int) : Int :=
  if amount ≤ 0 then maxHistory.getD amount else amount

theorem loadAmount_eq (amount : Int) (mh : Option Int) :
    loadAmount amount mh = if effAmount amount mh ≤ 0 then -1 else effAmount amount mh := by
  unfold loadAmount effAmount
  cases mh <;> rfl

theorem loadAmount_none (amount : Int) : loadAmount amount none = -1 ↔ amount ≤ 0 := by
  rw [loadAmount_eq, effAmount, Option.getD_none, ite_self]; split <;> omega

theorem loadAmount_pos {amount : Int} (h : 0 < amount) (mh : Option Int) : loadAmount amount mh = amount := by
  simp only [loadAmount, if_neg (Int.not_le.mpr h)]

/-- `Join` is never asked to keep zero entries -/
theorem loadAmount_range (amount : Int) (mh : Option Int) :
    loadAmount amount mh = -1 ∨ 0 < loadAmount amount mh := by
  rw [loadAmount_eq]; split <;> omega

/-- the `size` handed to `Join` -/
def loadSize (amount : Int) (L : Log) (m : OMap) : Int :=
  if amount > -1 && amount ≥ (L.entries.length : Int) + (m.filter (fun e => !has L.entries e.hash)).length then -1
  else amount

theorem loadHead0_eq (acl : Acl) (fetch : Nat → OMap) (amount : Int) (L : Log) (h : Nat) :
    loadHead0 acl fetch amount L h =
      match joinSize acl.canAppend L (ofList (fetch h)) (ofList (findHeads (ofList (fetch h)))) L.id
          (loadSize amount L (ofList (fetch h))) with
      | .ok L' => .ok L'
      | .error .panic => .error .panic
      | .error _ => .ok L := rfl

theorem loadSize_pos {amount : Int} {L : Log} {m : OMap} (h : loadSize amount L m > -1) :
    loadSize amount L m = amount ∧
      amount < (L.entries.length : Int) + (m.filter (fun e => !has L.entries e.hash)).length := by
  unfold loadSize at h ⊢
  split at h
  · exact absurd h (by decide)
  · next hc =>
    rw [if_neg hc]
    simp only [Bool.and_eq_true, decide_eq_true_eq, not_and, Int.not_le] at hc
    exact ⟨rfl, hc h⟩

theorem joinSize_eq (ca : Entry → Bool) (L : Log) (A hs : OMap) (size : Int) :
    joinSize ca L A hs L.id size =
      if (difference A hs L).all (acceptable ca) then
        if size > -1 then (trim (joinCore L A hs L.id) size.toNat).map bumpClock
        else .ok (bumpClock (joinCore L A hs L.id))
      else if (difference A hs L).all ca then .error .sigFail else .error .denied := by
  simp only [joinSize, joinChecked, bne_self_eq_false, Bool.false_eq_true, if_false]
  cases (difference A hs L).all (acceptable ca) <;> cases (difference A hs L).all ca <;> rfl

theorem joinSize_neg_one (ca : Entry → Bool) (L : Log) (A hs : OMap) :
    joinSize ca L A hs L.id (-1) = join ca L A hs L.id := by
  rw [joinSize_eq, join_eq]; rfl

theorem joinSize_panic {ca : Entry → Bool} {L : Log} {A hs : OMap} {size : Int}
    (hp : joinSize ca L A hs L.id size = .error .panic) :
    size > -1 ∧ size.toNat > (values (joinCore L A hs L.id)).length := by
  rw [joinSize_eq] at hp
  by_cases hacc : (difference A hs L).all (acceptable ca) = true
  · by_cases hsz : size > -1
    · rw [if_pos hacc, if_pos hsz] at hp
      cases hT : trim (joinCore L A hs L.id) size.toNat with
      | ok T => rw [hT] at hp; cases hp
      | error e => exact ⟨hsz, (trim_error hT).2⟩
    · rw [if_pos hacc, if_neg hsz] at hp; cases hp
  · rw [if_neg hacc] at hp; split at hp <;> cases hp

end Orbit
