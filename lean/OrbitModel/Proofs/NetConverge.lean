import OrbitModel.Proofs.NetBasic
/-!
# Convergence after a final exchange (C02)

Whatever happened before (writes, arbitrary deliveries, drops, duplicates, restarts), once every
ordered pair of replicas has exchanged heads -- a `send i j` whose *very message* is later handled
by `j` -- every replica holds every acknowledged write.

The final phase is not a canonical list: it is any write-free action list in which every ordered
pair is delivered (`Delivers`), with arbitrary further sends, deliveries of old or duplicated
messages, restarts and faults interleaved anywhere.
-/
namespace Orbit.Net

/-- running `fin` from `s`, there is a `send i j` and, later, the handling of exactly that message:
the soup only grows by appending, so the message's index is the soup length at the time of sending. -/
def Delivers (u : Univ) (s : State) (fin : List Act) (i j : Nat) : Prop :=
  ∃ (pre mid post : List Act) (c : List Nat),
    fin = pre ++ .send i j :: (mid ++ .recv (run u s pre).soup.length c :: post)

structure FinalPhase (u : Univ) (s : State) (n : Nat) (fin : List Act) : Prop where
  noWrite : ∀ a ∈ fin, a.isWrite = false
  delivers : ∀ i j, i < n → j < n → i ≠ j → Delivers u s fin i j

def init (n : Nat) : State := { reps := List.replicate n {} }

theorem delivers_held (u : Univ) (s : State) (fin : List Act) (i j : Nat)
    (hc : Covers u s) (hv : ValidRun u s fin) (hd : Delivers u s fin i j) (hj : j < s.reps.length)
    (r : Replica) (hr : s.reps[i]? = some r) (h : Nat) (hh : h ∈ r.held) :
    ∃ r', (run u s fin).reps[j]? = some r' ∧ h ∈ r'.held := by
  obtain ⟨pre, mid, post, c, rfl⟩ := hd
  simp only [validRun_append, ValidRun] at hv
  obtain ⟨hv₁, hvs, hv₃, hvr, hv₅⟩ := hv
  simp only [run_append, run_cons]
  have hj₄ : j < (run u (step u (run u s pre) (.send i j)) mid).reps.length := by
    rw [run_length, step_length, run_length]; exact hj
  -- up to the send: `i` still holds `h`, so its cached heads cover it
  have hc₂ := covers_run hc hv₁
  obtain ⟨r₂, hr₂, hm₂⟩ := (later_run hc hv₁).held i r hr
  have hcov : h ∈ ancAll u r₂.heads := covers_iff.mp hc₂ i r₂ hr₂ h (hm₂ h hh)
  generalize run u s pre = s₂ at *
  -- the send puts them at the end of the soup, where they stay
  have hc₃ := (step_next ..).covers hc₂ hvs
  have hk₃ := send_soup u hr₂ j
  generalize step u s₂ (.send i j) = s₃ at *
  have hc₄ := covers_run hc₃ hv₃
  have hk₄ := run_soup u s₃ mid hk₃
  generalize run u s₃ mid = s₄ at *
  -- the delivery adds their ancestry to what `j` holds, for good
  obtain ⟨r₄, hr₄⟩ : ∃ r₄, s₄.reps[j]? = some r₄ := ⟨_, List.getElem?_eq_getElem hj₄⟩
  obtain ⟨r₅, hr₅, hh₅⟩ : ∃ r₅, (step u s₄ (.recv s₂.soup.length c)).reps[j]? = some r₅ ∧ h ∈ r₅.held := by
    simp only [step, hk₄]
    exact ⟨_, getElem?_updRep_self _ hr₄, List.mem_append_right _ hcov⟩
  obtain ⟨r₆, hr₆, hm₆⟩ := (later_run ((step_next ..).covers hc₄ hvr) hv₅).held j r₅ hr₅
  exact ⟨r₆, hr₆, hm₆ h hh₅⟩

theorem converge_final (u : Univ) (s : State) (fin : List Act)
    (hc : Covers u s) (ha : AckedSomewhere u s) (hv : ValidRun u s fin)
    (hf : FinalPhase u s s.reps.length fin) :
    ∀ r ∈ (run u s fin).reps, ∀ h ∈ (run u s fin).acked, h ∈ r.held := by
  intro r hr h hh
  rw [run_acked u s fin hf.noWrite] at hh
  obtain ⟨a, ra, hra, hha⟩ := ackedSomewhere_iff.mp ha h hh
  obtain ⟨j, hj⟩ := List.getElem?_of_mem hr
  have hjn : j < s.reps.length := run_length u s fin ▸ (List.getElem?_eq_some_iff.mp hj).1
  have han : a < s.reps.length := (List.getElem?_eq_some_iff.mp hra).1
  have key : ∃ r', (run u s fin).reps[j]? = some r' ∧ h ∈ r'.held := by
    by_cases haj : a = j
    · subst haj
      obtain ⟨r', hr', hm⟩ := (later_run hc hv).held a ra hra
      exact ⟨r', hr', hm h hha⟩
    · exact delivers_held u s fin a j hc hv (hf.delivers a j han hjn haj) hjn ra hra h hha
  obtain ⟨r', hr', hh'⟩ := key
  rw [hj] at hr'
  cases hr'
  exact hh'

theorem converge (u : Univ) (s₀ : State) (pre fin : List Act)
    (hc : Covers u s₀) (ha : AckedSomewhere u s₀) (hv : ValidRun u s₀ (pre ++ fin))
    (hf : FinalPhase u (run u s₀ pre) s₀.reps.length fin) :
    ∀ r ∈ (run u s₀ (pre ++ fin)).reps, ∀ h ∈ (run u s₀ (pre ++ fin)).acked, h ∈ r.held := by
  rw [validRun_append] at hv
  rw [run_append]
  refine converge_final u (run u s₀ pre) fin (covers_run hc hv.1)
    ((later_run hc hv.1).ackedSomewhere ha) hv.2 ?_
  rw [run_length]
  exact hf

theorem covers_init (u : Univ) (n : Nat) : Covers u (init n) := by
  intro r hr x hx
  rw [init, List.mem_replicate] at hr
  rw [hr.2] at hx
  cases hx

theorem ackedSomewhere_init (u : Univ) (n : Nat) : AckedSomewhere u (init n) := by
  intro h hh
  cases hh

@[simp] theorem init_length (n : Nat) : (init n).reps.length = n := by
  simp only [init, List.length_replicate]

theorem converge_from_init (u : Univ) (n : Nat) (pre fin : List Act)
    (hv : ValidRun u (init n) (pre ++ fin))
    (hf : FinalPhase u (run u (init n) pre) n fin) :
    ∀ r ∈ (run u (init n) (pre ++ fin)).reps, ∀ h ∈ (run u (init n) (pre ++ fin)).acked, h ∈ r.held :=
  converge u (init n) pre fin (covers_init u n) (ackedSomewhere_init u n) hv
    (by rw [init_length]; exact hf)

end Orbit.Net
