import OrbitModel.Model.Connect
/-!
# One subscription per peer, whatever the number and order of `Connect` calls; `monitor` hands on exactly its peer's messages   (C20)
-/
namespace Orbit.Connect

theorem runLocked_eq (n : Nat) : runLocked (n + 1) {} = { known := true, subscriptions := 1 } := by
  induction n with
  | zero => rfl
  | succ n ih => exact congrArg connectLocked ih

theorem monitor_eq (p : Nat) (msgs : List (Nat × List Nat)) :
    monitor p msgs = msgs.filter (fun m => m.1 == p) :=
  (List.map_congr_left fun m hm => by rw [← beq_iff_eq.mp (List.mem_filter.mp hm).2]; rfl).trans
    (List.map_id _)

end Orbit.Connect

