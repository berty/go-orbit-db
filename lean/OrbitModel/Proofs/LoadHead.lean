import OrbitModel.Proofs.LoadNoPanic
/-!
# One head of `Load(amount)`: a `Join` of what the log does not hold, then the cut   (C15)

`loadHead1` is `join` (a refused log is skipped; `join` never panics) followed by `cut`: the trim `Load` asks
for once the listing is known to be longer than the amount. Into any log satisfying the invariant the
`join` merges everything fetched (`loadHead_join`); the two together are `loadHead_spec`.
-/
namespace Orbit

theorem has_nil (h : Nat) : has [] h = false := rfl

/-- what `Load` does with the log `Join(l, -1)` returned: the trim, when the listing is longer than the amount -/
def cut (amount : Int) (J : Log) : Except Err Log :=
  if amount > -1 ∧ (values J).length > amount then (trim J amount.toNat).map bumpClock else .ok J

theorem loadHead1_eq (acl : Acl) (fetch : Nat → OMap) (amount : Int) (L : Log) (h : Nat) :
    loadHead1 acl fetch amount L h =
      match join acl.canAppend L (ofList (fetch h)) (ofList (findHeads (ofList (fetch h)))) L.id with
      | .ok J => cut amount J
      | .error _ => .ok L := by
  unfold loadHead1 logOfEntries cut
  simp only [joinSize_neg_one, Bool.and_eq_true, decide_eq_true_eq]
  cases hj : join acl.canAppend L (ofList (fetch h)) (ofList (findHeads (ofList (fetch h)))) L.id with
  | ok J => rfl
  | error e => rcases join_error hj with rfl | rfl <;> rfl

/-- the trim is only asked for when there is enough to keep -/
theorem cut_ok (amount : Int) (J : Log) : ∃ L', cut amount J = .ok L' := by
  unfold cut
  by_cases hc : amount > -1 ∧ (values J).length > amount
  · obtain ⟨T, hT⟩ := trim_ok (L := J) (Int.toNat_le.mpr (Int.le_of_lt hc.2))
    exact ⟨bumpClock T, by rw [if_pos hc, hT]; rfl⟩
  · exact ⟨J, if_neg hc⟩

theorem cut_values {U : List Entry} (hU : HashDet U) (hT : TieFree U) (hM : ClockMono U) {J : Log}
    (hI : Inv U J) (hnd : J.entries.Nodup) (amount : Int) :
    ∃ L', cut amount J = .ok L' ∧ L'.id = J.id ∧
      values L' = if amount > -1 then (values J).drop ((values J).length - amount.toNat) else values J := by
  unfold cut
  by_cases hc : amount > -1 ∧ (values J).length > amount
  · obtain ⟨T, ht⟩ := trim_ok (L := J) (Int.toNat_le.mpr (Int.le_of_lt hc.2))
    obtain ⟨_, hv, _, _, hid⟩ := trim_spec hU hT hM hI hnd ht
    exact ⟨bumpClock T, by rw [if_pos hc, ht]; rfl, hid, by rw [if_pos hc.1]; exact hv⟩
  · refine ⟨J, if_neg hc, rfl, ?_⟩
    split
    · next h0 =>
      -- nothing to drop: the listing is no longer than the amount
      rw [Nat.sub_eq_zero_of_le ((Int.le_toNat (by omega)).mpr (Int.not_lt.mp fun h => hc ⟨h0, h⟩)),
        List.drop_zero]
    · rfl

theorem loadHead_empty (acl : Acl) (fetch : Nat → OMap) (amount : Int) (id h : Nat) :
    loadHead acl fetch amount (Log.empty id) h = loadHead1 acl fetch amount (Log.empty id) h := by
  have : missingFetch (Log.empty id) fetch h = fetch h := List.filter_eq_self.mpr fun _ _ => rfl
  unfold loadHead loadHead1
  rw [this]

theorem fetched_missing {U : List Entry} {L : Log} {fetch : Nat → OMap} {h : Nat}
    (hF : Fetched U L (fetch h)) : Fetched U L (missingFetch L fetch h) :=
  ⟨fun e he => hF.sub e (mem_missingFetch.mp he).1, fun e he => hF.lid e (mem_missingFetch.mp he).1⟩

theorem loadHead_join {U : List Entry} (hU : HashDet U) (hM : ClockMono U)
    (acl : Acl) (fetch : Nat → OMap) {L : Log} (h : Nat) (hG : Good U L)
    (hF : Fetched U L (fetch h)) (hacc : ∀ e ∈ fetch h, acceptable acl.canAppend e = true) :
    ∃ J, join acl.canAppend L (ofList (missingFetch L fetch h))
        (ofList (findHeads (ofList (missingFetch L fetch h)))) L.id = .ok J ∧
      Good U J ∧ J.id = L.id ∧ ∀ e, e ∈ J.entries ↔ e ∈ L.entries ∨ e ∈ fetch h := by
  have hFm := fetched_missing (L := L) hF
  have hA := fetched_honest hFm
  have hmem := mem_ofList hU hFm.sub
  have hj := join_ok_of_acceptable (ca := acl.canAppend) L _ (ofList (findHeads (ofList (missingFetch L fetch h))))
    fun x hx => hacc x (mem_missingFetch.mp ((hmem x).mp (difference_item _ _ _ x hx).1)).1
  refine ⟨_, hj, good_step hU hM hG (.join L _ _ _ L.id hA (fetched_lid hFm) hj), join_id hj, fun e => ?_⟩
  rw [join_fresh_entries hU hG.inv hA (fetched_lid hFm)
    (fun e he => (mem_missingFetch.mp ((hmem e).mp he)).2) (fetched_covered hU hM hFm) hj e, hmem,
    mem_missingFetch]
  constructor
  · exact Or.imp_right And.left
  · rintro (h1 | h1)
    · exact Or.inl h1
    · cases hh : has L.entries e.hash
      · exact Or.inr ⟨h1, rfl⟩
      · exact Or.inl (mem_of_has hU hG.inv.sub (hF.sub e h1) hh)

theorem loadHead_all_entries {U : List Entry} (hU : HashDet U) (hM : ClockMono U)
    (acl : Acl) (fetch : Nat → OMap) {L : Log} (h : Nat) (hG : Good U L)
    (hF : Fetched U L (fetch h)) (hacc : ∀ e ∈ fetch h, acceptable acl.canAppend e = true) :
    ∃ L', loadHead acl fetch (-1) L h = .ok L' ∧
      ∀ e, e ∈ L'.entries ↔ e ∈ L.entries ∨ e ∈ fetch h := by
  obtain ⟨J, hj, _, _, hent⟩ := loadHead_join hU hM acl fetch h hG hF hacc
  exact ⟨J, by rw [loadHead, loadHead1_eq, hj]; rfl, hent⟩

theorem loadHead_spec {U : List Entry} (hU : HashDet U) (hT : TieFree U) (hM : ClockMono U)
    (acl : Acl) (fetch : Nat → OMap) (amount : Int) {L : Log} (h : Nat) (hG : Good U L)
    (hF : Fetched U L (fetch h)) (hacc : ∀ e ∈ fetch h, acceptable acl.canAppend e = true) :
    ∃ J, Good U J ∧ (∀ e, e ∈ J.entries ↔ e ∈ L.entries ∨ e ∈ fetch h) ∧
      ∃ L', loadHead acl fetch amount L h = .ok L' ∧ L'.id = L.id ∧
        values L' = if amount > -1 then (values J).drop ((values J).length - amount.toNat) else values J := by
  obtain ⟨J, hj, hGJ, hid, hent⟩ := loadHead_join hU hM acl fetch h hG hF hacc
  refine ⟨J, hGJ, hent, ?_⟩
  rw [loadHead, loadHead1_eq, hj, ← hid]
  exact cut_values hU hT hM hGJ.inv hGJ.nodup amount

end Orbit
