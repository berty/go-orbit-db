import OrbitModel.Proofs.LogReach
import OrbitModel.Model.Persist
/-!
# `joinAll` (the joins of `replicationLoadComplete`): one induction, and what every join keeps

`Extends ca L L'`: `L'` is `L` grown by verified entries. A successful `join` of ANY log extends the log,
so does every batch of joins and every step of a replica; C03 (members) and C04 are read off it.
Also here: what the store model and the crash model both assume of what a replica is handed — `WriteOk` (a local
write), `BatchHonest` (a batch), with the induction along an honest batch — and what the fetch filters of `Load`
(`ownFetch`, `goodFetch`, `missingFetch`) let through.
-/
namespace Orbit

theorem joinAll_cons (acl : Acl) (L : Log) (es hs : OMap) (rest : List (OMap × OMap)) :
    joinAll acl L ((es, hs) :: rest) =
      match join acl.canAppend L es hs L.id with
      | .ok L' => joinAll acl L' rest
      | .error _ => joinAll acl L rest := rfl

theorem joinedEntries_cons (acl : Acl) (L : Log) (es hs : OMap) (rest : List (OMap × OMap)) :
    joinedEntries acl L ((es, hs) :: rest) =
      match join acl.canAppend L es hs L.id with
      | .ok L' => es ++ joinedEntries acl L' rest
      | .error _ => joinedEntries acl L rest := rfl

/-- `P` also sees `acc ++` the entries of the logs joined so far (`joinedEntries`: what the `replicated` event lists) -/
theorem joinAll_induction₂ (acl : Acl) {P : Log → List Entry → Prop} {logs : List (OMap × OMap)}
    (step : ∀ p ∈ logs, ∀ L L' acc, P L acc → join acl.canAppend L p.1 p.2 L.id = .ok L' → P L' (acc ++ p.1)) :
    ∀ {L : Log} {acc : List Entry}, P L acc → P (joinAll acl L logs) (acc ++ joinedEntries acl L logs) := by
  induction logs with
  | nil => intro L acc h; rw [joinedEntries, List.append_nil]; exact h
  | cons p rest ih =>
    intro L acc hL
    have ih := @ih fun q hq => step q (List.mem_cons_of_mem _ hq)
    rw [joinAll_cons, joinedEntries_cons]
    split
    · rw [← List.append_assoc]; exact ih (step p List.mem_cons_self L _ acc hL ‹_›)
    · exact ih hL

theorem joinAll_induction (acl : Acl) {P : Log → Prop} {logs : List (OMap × OMap)}
    (step : ∀ p ∈ logs, ∀ L L', P L → join acl.canAppend L p.1 p.2 L.id = .ok L' → P L') :
    ∀ {L : Log}, P L → P (joinAll acl L logs) :=
  joinAll_induction₂ acl (P := fun L _ => P L) (acc := []) fun p hp L L' _ => step p hp L L'

structure Extends (ca : Entry → Bool) (L L' : Log) : Prop where
  id   : L'.id = L.id
  mono : ∀ e ∈ L.entries, e ∈ L'.entries
  new  : ∀ e ∈ L'.entries, e ∉ L.entries → ca e = true ∧ e.sigOk = true ∧ e.logId = L.id

theorem Extends.refl (ca : Entry → Bool) (L : Log) : Extends ca L L :=
  ⟨rfl, fun _ h => h, fun _ h hn => absurd h hn⟩

theorem Extends.trans {ca : Entry → Bool} {L₁ L₂ L₃ : Log} (h₁ : Extends ca L₁ L₂) (h₂ : Extends ca L₂ L₃) :
    Extends ca L₁ L₃ :=
  ⟨h₂.id.trans h₁.id, fun e he => h₂.mono e (h₁.mono e he), fun e he hn =>
    if h : e ∈ L₂.entries then h₁.new e h hn else h₁.id ▸ h₂.new e he h⟩

theorem join_extends {ca : Entry → Bool} {L L' : Log} {A headsA : OMap} {Aid : Nat}
    (h : join ca L A headsA Aid = .ok L') : Extends ca L L' :=
  ⟨join_id h, join_mono h, fun e he hn =>
    (join_new_acceptable h e he).elim (absurd · hn) fun ⟨h1, h2, h3, _⟩ => ⟨h1, h2, h3⟩⟩

theorem joinAll_extends (acl : Acl) (logs : List (OMap × OMap)) (L : Log) :
    Extends acl.canAppend L (joinAll acl L logs) :=
  joinAll_induction acl (fun _ _ _ _ h hj => h.trans (join_extends hj)) (.refl _ L)

theorem joinAll_entries_from (acl : Acl) (logs : List (OMap × OMap)) (L : Log) :
    ∀ e ∈ (joinAll acl L logs).entries,
      e ∈ L.entries ∨ ∃ p ∈ logs, e ∈ p.1 ∧ acceptable acl.canAppend e = true := by
  refine joinAll_induction acl (P := fun K => ∀ e ∈ K.entries, e ∈ L.entries ∨
    ∃ p ∈ logs, e ∈ p.1 ∧ acceptable acl.canAppend e = true) (fun p hp K K' hK hj e he => ?_)
    (fun _ h => Or.inl h)
  rcases join_new_acceptable hj e he with h | ⟨h1, h2, _, h⟩
  · exact hK e h
  · exact Or.inr ⟨p, hp, h, by rw [acceptable, h1, h2]; rfl⟩

/-- the side conditions of a local write (those of `Step.appendOk`), needed only when the access
controller allows the entry -/
def WriteOk (acl : Acl) (U : List Entry) (L : Log) (mk : Nat → List Nat → Entry) : Prop :=
  acl.canAppend (mk (appendTime L) (appendNext L)) = true →
    mk (appendTime L) (appendNext L) ∈ U ∧
    (mk (appendTime L) (appendNext L)).next = appendNext L ∧
    (mk (appendTime L) (appendNext L)).time = appendTime L ∧
    has L.entries (mk (appendTime L) (appendNext L)).hash = false

theorem writeOk_step {acl : Acl} {U : List Entry} {L : Log} {mk : Nat → List Nat → Entry}
    (hw : WriteOk acl U L mk) : Step acl.canAppend U L (append acl.canAppend L mk).1 := by
  cases hc : acl.canAppend (mk (appendTime L) (appendNext L))
  · exact .appendDenied L mk hc
  · obtain ⟨h1, h2, h3, h4⟩ := hw hc
    exact .appendOk L mk h1 h2 h3 h4 hc

def BatchHonest (U : List Entry) (id : Nat) (logs : List (OMap × OMap)) : Prop :=
  ∀ p ∈ logs, Honest U p.1 p.2 ∧ ∀ e ∈ p.1, e.logId = id

/-- the form `decide` checks on a concrete batch -/
theorem batchHonest_iff {U : List Entry} {id : Nat} {logs : List (OMap × OMap)} :
    BatchHonest U id logs ↔
      ∀ p ∈ logs, (∀ e ∈ p.1, e ∈ U) ∧ (∀ e ∈ p.2, e ∈ p.1) ∧ ∀ e ∈ p.1, e.logId = id :=
  forall₂_congr fun _ _ => ⟨fun ⟨⟨a, b⟩, c⟩ => ⟨a, b, c⟩, fun ⟨a, b, c⟩ => ⟨⟨a, b⟩, c⟩⟩

/-- `joinAll_induction₂` along a batch of honest logs: every intermediate log is `Good` and has the id of the first -/
theorem joinAll_induction_good {acl : Acl} {U : List Entry} (hU : HashDet U) (hM : ClockMono U) {L : Log}
    {logs : List (OMap × OMap)} (hB : BatchHonest U L.id logs) {P : Log → List Entry → Prop}
    (step : ∀ p ∈ logs, ∀ L₁ L₂ acc, Good U L₁ → Honest U p.1 p.2 → (∀ e ∈ p.1, e.logId = L₁.id) → P L₁ acc →
      join acl.canAppend L₁ p.1 p.2 L₁.id = .ok L₂ → P L₂ (acc ++ p.1))
    {acc : List Entry} (hG : Good U L) (h : P L acc) :
    Good U (joinAll acl L logs) ∧ P (joinAll acl L logs) (acc ++ joinedEntries acl L logs) := by
  have := joinAll_induction₂ acl (logs := logs) (L := L) (acc := acc)
    (P := fun L' acc => (Good U L' ∧ L'.id = L.id) ∧ P L' acc)
    (fun p hp L₁ L₂ acc ⟨⟨hG₁, hid⟩, hP⟩ hj =>
      have hA := (hB p hp).1
      have hlid : ∀ e ∈ p.1, e.logId = L₁.id := hid ▸ (hB p hp).2
      ⟨⟨good_step hU hM hG₁ (.join L₁ L₂ p.1 p.2 L₁.id hA hlid hj), (join_id hj).trans hid⟩,
        step p hp L₁ L₂ acc hG₁ hA hlid hP hj⟩) ⟨⟨hG, rfl⟩, h⟩
  exact ⟨this.1.1, this.2⟩

theorem joinAll_good {acl : Acl} {U : List Entry} (hU : HashDet U) (hM : ClockMono U) {L : Log}
    {logs : List (OMap × OMap)} (hG : Good U L) (hB : BatchHonest U L.id logs) :
    Good U (joinAll acl L logs) :=
  (joinAll_induction_good (acc := []) hU hM hB (P := fun _ _ => True) (fun _ _ _ _ _ _ _ _ _ _ => trivial) hG
    trivial).1

theorem mem_ownFetch {id : Nat} {fetch : Nat → OMap} {h : Nat} {e : Entry} :
    e ∈ ownFetch id fetch h ↔ e ∈ fetch h ∧ e.logId = id := by
  simp [ownFetch]

theorem mem_goodFetch {acl : Acl} {id : Nat} {fetch : Nat → OMap} {h : Nat} {e : Entry} :
    e ∈ goodFetch acl id fetch h ↔
      e ∈ fetch h ∧ e.logId = id ∧ acceptable acl.canAppend e = true ∧ e.hashOk = true := by
  simp only [goodFetch, goodFetch1, ownFetch, List.mem_filter, beq_iff_eq, and_assoc]

theorem mem_missingFetch {L : Log} {fetch : Nat → OMap} {h : Nat} {e : Entry} :
    e ∈ missingFetch L fetch h ↔ e ∈ fetch h ∧ has L.entries e.hash = false := by
  simp [missingFetch]

end Orbit
