import OrbitModel.Generated.GenStatus
import OrbitModel.Model.Status
/-!
# Regenerated Go fragment = hand-written model (tie 2); one small module per fragment, so that a
change to one Go function only stops the theorems tied to it
-/
namespace Orbit

theorem gen_recalcProgress (len : Int) (s : Status) :
    Gen.genRecalcProgress len s.max s.progress = (recalcProgress len s).progress := by
  simp only [Gen.genRecalcProgress, recalcProgress, decide_eq_true_eq]

theorem gen_recalcMax (len : Int) (s : Status) (arg : Int) :
    Gen.genRecalcMax len s.max s.progress arg = (recalcMax len s arg).max := by
  simp only [Gen.genRecalcMax, recalcMax, decide_eq_true_eq]

end Orbit
