import OrbitModel.Model.Writers
import OrbitModel.Proofs.ListSet
/-!
# With the write mutex, the cached head is always the newest entry whose writer got that far   (C17)
-/
namespace Orbit.Writers

/-- Invariant of the atomic protocol (`atomic := true`): while a writer holds the mutex the cache is one
entry behind the log (`held`: appended, not yet put), otherwise it holds the newest entry (`free`). -/
structure Inv (s : St) : Prop where
  done_le : ∀ pc ∈ s.pcs, ∀ e, pc = .done e → 1 ≤ e ∧ e ≤ s.logLen
  free    : s.lockedBy = none → (∀ pc ∈ s.pcs, ∀ e, pc ≠ .appended e) ∧
              (s.logLen = 0 ∧ s.cache = none ∨ s.cache = some s.logLen)
  held    : ∀ i, s.lockedBy = some i → 1 ≤ s.logLen ∧ s.pcs[i]? = some (.appended s.logLen) ∧
              (∀ j pc e, s.pcs[j]? = some pc → pc = .appended e → j = i) ∧
              (∀ pc ∈ s.pcs, ∀ e, pc = .done e → e < s.logLen) ∧
              (s.logLen = 1 ∧ s.cache = none ∨ s.cache = some (s.logLen - 1))

theorem inv_init (n : Nat) : Inv (init n) := by
  have hstart : ∀ pc ∈ (init n).pcs, ∀ e, pc ≠ .done e ∧ pc ≠ .appended e := fun pc hpc e => by
    cases (List.mem_replicate.mp hpc).2; exact ⟨nofun, nofun⟩
  exact ⟨fun pc hpc e he => absurd he (hstart pc hpc e).1,
    fun _ => ⟨fun pc hpc e => (hstart pc hpc e).2, .inl ⟨rfl, rfl⟩⟩, nofun⟩

theorem inv_step (s : St) (i : Nat) (hi : Inv s) : Inv (step true s i) := by
  unfold step
  cases hpc : s.pcs[i]? with
  | none => exact hi
  | some pc =>
    have hilt := (List.getElem?_eq_some_iff.mp hpc).1
    cases pc with
    | done e => exact hi
    | start =>
      simp only [Bool.true_and]
      cases hl : s.lockedBy with
      | some j => simpa [hl] using hi
      | none =>
        -- the mutex is free: `i` takes it and appends entry `logLen + 1`
        simp only [Option.isSome_none, Bool.false_eq_true, ↓reduceIte]
        have hf := hi.free hl
        refine ⟨List.forall_mem_set nofun (fun pc h e he => ⟨(hi.done_le pc h e he).1,
          Nat.le_succ_of_le (hi.done_le pc h e he).2⟩) i, nofun, ?_⟩
        -- (`free` is vacuous now; the holder is `i`)
        rintro _ ⟨⟩
        refine ⟨Nat.succ_pos _, List.getElem?_set_self hilt, fun k pc e hk he => ?_,
          List.forall_mem_set nofun (fun pc h e he => Nat.lt_succ_of_le (hi.done_le pc h e he).2) i, ?_⟩
        · by_cases hki : i = k
          · exact hki.symm
          · rw [List.getElem?_set_ne hki] at hk
            exact absurd he (hf.1 pc (List.mem_of_getElem? hk) e)
        · exact hf.2.imp (fun ⟨hz, hc⟩ => ⟨congrArg (· + 1) hz, hc⟩) (fun hc => hc)
    | appended e =>
      simp only [↓reduceIte]
      -- the writer in `appended` holds the mutex, and its entry is the newest
      have hlock : s.lockedBy = some i := by
        cases hl : s.lockedBy with
        | none => exact absurd rfl ((hi.free hl).1 _ (List.mem_of_getElem? hpc) e)
        | some j => rw [(hi.held j hl).2.2.1 i _ e hpc rfl]
      obtain ⟨hpos, hmine, honly, hdone, _⟩ := hi.held i hlock
      obtain rfl : e = s.logLen := PC.appended.inj (Option.some.inj (hpc.symm.trans hmine))
      refine ⟨List.forall_mem_set (fun e' he' => by cases he'; exact ⟨hpos, Nat.le_refl _⟩) hi.done_le i,
        fun _ => ⟨fun pc hm e' he' => ?_, .inr rfl⟩, nofun⟩
      obtain ⟨k, hk⟩ := List.getElem?_of_mem hm
      by_cases hki : i = k
      · subst hki; rw [List.getElem?_set_self hilt] at hk; cases hk; cases he'
      · rw [List.getElem?_set_ne hki] at hk
        exact hki (honly k pc e' hk he').symm

theorem inv_run (n : Nat) (sched : List Nat) : Inv (run true (init n) sched) :=
  List.foldlRecOn sched _ (inv_init n) fun s h i _ => inv_step s i h

theorem Inv.acked_recoverable {s : St} (hi : Inv s) : ∀ e ∈ acked s, e ∈ recovered s := by
  intro e he
  obtain ⟨pc, hpc, hsome⟩ := List.mem_filterMap.mp he
  cases pc with
  | start => cases hsome
  | appended _ => cases hsome
  | done e' =>
    cases hsome
    obtain ⟨h1, hle⟩ := hi.done_le _ hpc e rfl
    -- the cached head is `logLen`, or `logLen - 1` while the newest entry's writer holds the mutex
    have hc : ∃ k, s.cache = some k ∧ e ≤ k := by
      cases hl : s.lockedBy with
      | none => exact (hi.free hl).2.elim (fun h => by omega) (⟨_, ·, hle⟩)
      | some i =>
        obtain ⟨_, _, _, hdone, hcache⟩ := hi.held i hl
        have := hdone _ hpc e rfl
        exact hcache.elim (fun h => by omega) (⟨_, ·, by omega⟩)
    obtain ⟨k, hk, hek⟩ := hc
    simp only [recovered, hk, List.mem_range'_1]
    omega

/-- the "recorded exactly once" of C17 on one schedule: three writers contending for the mutex each return
with an entry of their own (`acked` lists them by writer) -/
theorem acked_distinct_example :
    acked (run true (init 3) [0, 1, 0, 2, 1, 1, 2, 2, 1, 1]) = [1, 3, 2] := by decide

/-- the schedule of `C17.pinned_tree_loses_acknowledged_write` with the mutex: writer 1 cannot append
before writer 0 has put -/
example : (run true (init 2) [0, 1, 1, 0]).cache = some 1 ∧ acked (run true (init 2) [0, 1, 1, 0]) = [1] := by decide

end Orbit.Writers
