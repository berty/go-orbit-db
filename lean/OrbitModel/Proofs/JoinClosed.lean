import OrbitModel.Proofs.Covers
import OrbitModel.Proofs.JoinAll
/-!
# `Join` keeps the log closed under `next` when the incoming log brings its parents   (C05)

`difference` is closed: every `next` link of a new item is held already, or names a new item, or is
not acceptable (absent from the incoming log / foreign log id). Hence, if every `next` link of the
incoming entries names an incoming entry or an entry already held, the joined log is `Closed`; and
if moreover the incoming heads cover the incoming log, every incoming entry ends up in the log.
These are sufficient conditions, on the *input* of `replicationLoadComplete`, for the two
result-level hypotheses of `BatchOk` / `ValidHist.merged`.
-/
namespace Orbit

theorem difference_closed (A headsA : OMap) (L : Log) :
    ∀ x ∈ difference A headsA L, ∀ n ∈ x.next, ∀ e, Takes A L n e → e ∈ difference A headsA L :=
  fun x hx _ hn e ht =>
    (mem_difference A headsA L e).mpr (.link ((mem_difference A headsA L x).mp hx) hn ht)

/-- an entry list seen as a log, to speak of reachability inside it -/
def asLog (A : OMap) : Log := { id := 0, entries := A, heads := [], nextIdx := [], clock := 0 }

def ParentsIn (A : OMap) (L : Log) : Prop :=
  ∀ e ∈ A, ∀ n ∈ e.next, has A n = true ∨ has L.entries n = true

theorem join_closed {U : List Entry} (hU : HashDet U) {canAppend : Entry → Bool} {L L' : Log}
    {A headsA : OMap} (hI : Inv U L) (hA : Honest U A headsA) (hid : ∀ e ∈ A, e.logId = L.id)
    (hC : Closed L) (hpar : ParentsIn A L) (hj : join canAppend L A headsA L.id = .ok L') :
    Closed L' := by
  have hent := join_entries hU hI hA rfl hj
  have hsub := join_mono hj
  intro e he n hn
  rcases (hent e).mp he with heL | heN
  · exact has_mono hsub (hC e heL n hn)
  · have heA := (difference_item A headsA L e heN).1
    cases hheld : has L.entries n
    · rcases hpar e heA n hn with hAn | hLn
      · obtain ⟨y, hy, hyn⟩ := (has_iff _ _).mp hAn
        have hgy : get A n = some y := hyn ▸ get_of_mem hU hA.sub hy
        have hy' := difference_closed A headsA L e heN n hn y ⟨hgy, hheld, hid y hy⟩
        exact (has_iff _ _).mpr ⟨y, (hent y).mpr (Or.inr hy'), hyn⟩
      · rw [hheld] at hLn; cases hLn
    · exact has_mono hsub hheld

theorem join_heads_mem {U : List Entry} (hU : HashDet U) {canAppend : Entry → Bool} {L L' : Log}
    {A headsA : OMap} (hI : Inv U L) (hA : Honest U A headsA) (hid : ∀ e ∈ A, e.logId = L.id)
    (hj : join canAppend L A headsA L.id = .ok L') : ∀ x ∈ headsA, x ∈ L'.entries := fun x hx =>
  (join_entries hU hI hA rfl hj x).mpr (heads_complete hU L A headsA hA hI.sub hid x hx)

theorem join_all_in {U : List Entry} (hU : HashDet U) {canAppend : Entry → Bool} {L L' : Log}
    {A headsA : OMap} (hI : Inv U L) (hA : Honest U A headsA) (hid : ∀ e ∈ A, e.logId = L.id)
    (hC : Closed L) (hpar : ParentsIn A L) (hcov : CoveredBy (asLog A) (headsA.map (·.hash)))
    (hj : join canAppend L A headsA L.id = .ok L') : ∀ e ∈ A, e ∈ L'.entries := by
  have hC' := join_closed hU hI hA hid hC hpar hj
  have hL'U := (inv_join_honest hU hI hA hid hj).sub
  intro e he
  obtain ⟨h, hh, d⟩ := hcov e he
  obtain ⟨x, hx, rfl⟩ := List.mem_map.mp hh
  have hroot : has L'.entries x.hash = true := has_of_mem (join_heads_mem hU hI hA hid hj x hx)
  exact mem_of_has hU hL'U (hA.sub e he) (d.closed (hC'.nextClosed hU hL'U) hA.sub hroot)

def BatchParents (L : Log) (logs : List (OMap × OMap)) : Prop := ∀ p ∈ logs, ParentsIn p.1 L

def BatchCovered (logs : List (OMap × OMap)) : Prop :=
  ∀ p ∈ logs, CoveredBy (asLog p.1) (p.2.map (·.hash))

/-- whichever logs are rejected: a rejected log changes nothing, and a log with a rejected entry reachable
from its heads is rejected as a whole, children included -/
theorem joinAll_closed {acl : Acl} {U : List Entry} (hU : HashDet U) (hM : ClockMono U)
    (logs : List (OMap × OMap)) (L : Log) (hG : Good U L) (hC : Closed L) (hB : BatchHonest U L.id logs)
    (hP : BatchParents L logs) :
    Closed (joinAll acl L logs) ∧
      (BatchCovered logs → ∀ e ∈ joinedEntries acl L logs, e ∈ (joinAll acl L logs).entries) := by
  have h := (joinAll_induction_good (acl := acl) (acc := []) hU hM hB
    (P := fun L' acc => (Closed L' ∧ ∀ e ∈ L.entries, e ∈ L'.entries) ∧
      (BatchCovered logs → ∀ e ∈ acc, e ∈ L'.entries)) ?_ hG ⟨⟨hC, fun _ h => h⟩, fun _ _ h => nomatch h⟩).2
  · rw [List.nil_append] at h
    exact ⟨h.1.1, h.2⟩
  rintro p hp L₁ L₂ acc hG₁ hA hlid ⟨⟨hC₁, hsub⟩, hacc⟩ hj
  have hpar : ParentsIn p.1 L₁ := fun e he n hn => (hP p hp e he n hn).imp id (has_mono hsub)
  refine ⟨⟨join_closed hU hG₁.inv hA hlid hC₁ hpar hj, fun e he => join_mono hj e (hsub e he)⟩, fun hcov e he => ?_⟩
  -- what was reported so far stays; what this join reports is in its result
  rcases List.mem_append.mp he with he | he
  · exact join_mono hj e (hacc hcov e he)
  · exact join_all_in hU hG₁.inv hA hlid hC₁ hpar (hcov p hp) hj e he

end Orbit
