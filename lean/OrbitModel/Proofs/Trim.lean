import OrbitModel.Proofs.DiffAll
import OrbitModel.Proofs.LogReach
/-!
# `Join(other, size)`: the trim keeps the last `size` values   (C15)

`trim` rebuilds `Entries` from the tail of `Values()` and `heads` from `FindHeads`; the reverse index
`Next` is *not* rebuilt (as in Go), so the trimmed log satisfies the heads invariant but not
`Inv.nidx`. `Values()` never reads `Next`, so the listing of the trimmed log is still determined.
-/
namespace Orbit

theorem inv_of_findHeads {U : List Entry} (hU : HashDet U) (id : Nat) (K : List Entry) (c : Nat)
    (hK : ∀ e ∈ K, e ∈ U) :
    Inv U { id := id, entries := ofList K, heads := ofList (findHeads (ofList K)),
            nextIdx := nexts (ofList K), clock := c } := by
  have hm : ∀ e ∈ ofList K, e ∈ U := fun e he => hK e (mem_of_mem_ofList he)
  refine ⟨hm, ?_, fun _ => Iff.rfl, ofList_nodup _⟩
  intro e
  show e ∈ ofList (findHeads (ofList K)) ↔ _
  rw [mem_ofList hU (fun x hx => hm x ((mem_findHeads _ x).mp hx).1), mem_findHeads]

theorem trim_eq (L : Log) (size : Nat) :
    trim L size = if size > (values L).length then .error .panic else
      .ok { L with entries := ofList ((values L).drop ((values L).length - size)),
                   heads := ofList (findHeads (ofList ((values L).drop ((values L).length - size)))) } := rfl

theorem trim_error {L : Log} {size : Nat} {e : Err} (h : trim L size = .error e) :
    e = .panic ∧ size > (values L).length := by
  rw [trim_eq] at h
  split at h
  · next hs => injection h with h; exact ⟨h.symm, hs⟩
  · cases h

/-- with its index rebuilt the log that `trim` builds satisfies `Inv`, and `Values()` does not read the index -/
theorem values_trimmed {U : List Entry} (hU : HashDet U) (hT : TieFree U) (hM : ClockMono U) (L : Log)
    {K : List Entry} (hKU : ∀ e ∈ K, e ∈ U) (hK : K.Pairwise (fun a b => Entry.lt a b = true)) :
    values { L with entries := ofList K, heads := ofList (findHeads (ofList K)) } = K :=
  (values_congr rfl rfl).trans (values_eq_of_sorted hU hT hM (inv_of_findHeads hU L.id K L.clock hKU)
    (ofList_nodup K) hK (mem_ofList hU hKU))

theorem trim_spec {U : List Entry} (hU : HashDet U) (hT : TieFree U) (hM : ClockMono U)
    {L L' : Log} (hI : Inv U L) (hnd : L.entries.Nodup) {size : Nat} (h : trim L size = .ok L') :
    size ≤ (values L).length ∧ values L' = (values L).drop ((values L).length - size) ∧
    (∀ e, e ∈ L'.entries ↔ e ∈ (values L).drop ((values L).length - size)) ∧
    L'.entries.Nodup ∧ L'.id = L.id := by
  rw [trim_eq] at h
  split at h
  · cases h
  · next hs =>
    injection h with h
    subst h
    obtain ⟨hsort, hmem⟩ := values_sorted hU hT hM L hI hnd
    have hKU : ∀ e ∈ (values L).drop ((values L).length - size), e ∈ U := fun e he =>
      hI.sub e ((hmem e).mp (List.mem_of_mem_drop he))
    exact ⟨Nat.le_of_not_gt hs, values_trimmed hU hT hM L hKU (hsort.sublist (List.drop_sublist _ _)),
      mem_ofList hU hKU, ofList_nodup _, rfl⟩

theorem trim_ok {L : Log} {size : Nat} (h : size ≤ (values L).length) : ∃ L', trim L size = .ok L' := by
  rw [trim_eq, if_neg (Nat.not_lt.mpr h)]; exact ⟨_, rfl⟩

end Orbit
