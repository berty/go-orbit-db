import OrbitModel.Model.Snapshot
/-!
# Snapshot records: `u16 length ++ bytes` round-trips; the pinned encoder wraps at 65536   (C13, F9a)
-/
namespace Orbit.Snap

theorem encodeRec_some {r a : List Nat} (h : encodeRec r = some a) :
    r.length ≤ 65535 ∧ a = u16 r.length ++ r := by
  unfold encodeRec maxRec at h
  split at h
  · cases h
  · injection h with h
    exact ⟨by omega, h.symm⟩

theorem encodeRec_none_iff (r : List Nat) : encodeRec r = none ↔ 65535 < r.length := by
  unfold encodeRec maxRec
  split <;> simp_all

theorem encodeRecs_cons_some {r : List Nat} {rs : List (List Nat)} {bs : List Nat}
    (h : encodeRecs (r :: rs) = some bs) :
    ∃ a b, encodeRec r = some a ∧ encodeRecs rs = some b ∧ bs = a ++ b := by
  simp only [encodeRecs] at h
  split at h
  · rename_i a b ha hb
    injection h with h
    exact ⟨a, b, ha, hb, h.symm⟩
  · cases h

theorem encodeRecs_append_some {rs ss : List (List Nat)} {out : List Nat}
    (h : encodeRecs (rs ++ ss) = some out) :
    ∃ a b, encodeRecs rs = some a ∧ encodeRecs ss = some b ∧ out = a ++ b := by
  induction rs generalizing out with
  | nil => exact ⟨[], out, rfl, h, rfl⟩
  | cons r rs ih =>
    obtain ⟨a0, rest, ha0, hrest, rfl⟩ := encodeRecs_cons_some h
    obtain ⟨a, b, ha, hb, rfl⟩ := ih hrest
    exact ⟨a0 ++ a, b, by simp only [encodeRecs, ha0, ha], hb, (List.append_assoc ..).symm⟩

theorem encodeRecs_none_iff (rs : List (List Nat)) :
    encodeRecs rs = none ↔ ∃ r ∈ rs, 65535 < r.length := by
  induction rs with
  | nil => simp [encodeRecs]
  | cons r rs ih =>
    simp only [List.mem_cons, exists_eq_or_imp, ← ih, ← encodeRec_none_iff r, encodeRecs]
    cases encodeRec r <;> cases encodeRecs rs <;> simp

theorem decodeRecs_succ (n : Nat) (r rest : List Nat) (hr : r.length ≤ 65535) :
    decodeRecs (n + 1) (u16 r.length ++ r ++ rest) =
      (decodeRecs n rest).map (fun p => (r :: p.1, p.2)) := by
  have hlen : r.length / 256 % 256 * 256 + r.length % 256 = r.length := by
    rw [Nat.mod_eq_of_lt (Nat.div_lt_of_lt_mul (by omega)), Nat.div_add_mod']
  have h1 : ¬ (r ++ rest).length < r.length := by simp
  simp only [u16, List.cons_append, List.nil_append, decodeRecs, hlen, h1, if_false, List.drop_left,
    List.take_left]
  cases decodeRecs n rest <;> rfl

theorem decodeRecs_append (rs : List (List Nat)) (a t : List Nat) (n : Nat) (h : encodeRecs rs = some a) :
    decodeRecs (rs.length + n) (a ++ t) = (decodeRecs n t).map (fun p => (rs ++ p.1, p.2)) := by
  induction rs generalizing a with
  | nil => cases h; simp
  | cons r rs ih =>
    obtain ⟨a0, b, ha, hb, rfl⟩ := encodeRecs_cons_some h
    obtain ⟨hr, rfl⟩ := encodeRec_some ha
    rw [List.length_cons, Nat.add_right_comm, List.append_assoc, decodeRecs_succ _ r _ hr, ih b hb,
      Option.map_map]
    rfl

theorem records_roundtrip (rs : List (List Nat)) (bs tl : List Nat) (h : encodeRecs rs = some bs) :
    decodeRecs rs.length (bs ++ tl) = some (rs, tl) := by
  simpa [decodeRecs] using decodeRecs_append rs bs tl 0 h

/-- the trailing 0 alone is too short to be read as a length -/
theorem decodeRecs_short (rs : List (List Nat)) (b : List Nat) (h : encodeRecs rs = some b)
    (n : Nat) (hn : rs.length < n) : decodeRecs n (b ++ [0]) = none := by
  obtain ⟨k, rfl⟩ := Nat.exists_eq_add_of_lt hn
  rw [Nat.add_assoc, decodeRecs_append rs b [0] (k + 1) h]
  rfl

/-- the file every saver writes: a header record, the entry records, a trailing 0 -/
def written (hdr : List Nat) (recs : List (List Nat)) : Option (List Nat) :=
  match encodeRecs (hdr :: recs) with
  | some bs => some (bs ++ [0])
  | none => none

theorem decode_written_header {hdr : List Nat} {recs : List (List Nat)} {bs : List Nat}
    (h : written hdr recs = some bs) :
    ∃ b, encodeRecs recs = some b ∧ decodeRecs 1 bs = some ([hdr], b ++ [0]) := by
  unfold written at h
  split at h
  · rename_i b0 henc
    cases h
    obtain ⟨a, b, ha, hb, rfl⟩ := encodeRecs_cons_some henc
    have ha' : encodeRecs [hdr] = some a := by simp [encodeRecs, ha]
    exact ⟨b, hb, by rw [List.append_assoc]; exact records_roundtrip [hdr] a _ ha'⟩
  · cases h

/-- a header that announces `r1.length` records while `r1 ++ r2` were written: `r2` is not looked at -/
theorem decode_written {hdr : List Nat} {r1 r2 : List (List Nat)} {bs : List Nat}
    (h : written hdr (r1 ++ r2) = some bs) :
    ∃ rest tl, decodeRecs 1 bs = some ([hdr], rest) ∧ decodeRecs r1.length rest = some (r1, tl) := by
  obtain ⟨b, hb, hd⟩ := decode_written_header h
  obtain ⟨b1, b2, h1, _, rfl⟩ := encodeRecs_append_some hb
  exact ⟨_, b2 ++ [0], hd, by rw [List.append_assoc]; exact records_roundtrip r1 b1 _ h1⟩

theorem decode_written_short {hdr : List Nat} {recs : List (List Nat)} {bs : List Nat}
    (h : written hdr recs = some bs) (n : Nat) (hn : recs.length < n) :
    ∃ rest, decodeRecs 1 bs = some ([hdr], rest) ∧ decodeRecs n rest = none := by
  obtain ⟨b, hb, hd⟩ := decode_written_header h
  exact ⟨_, hd, decodeRecs_short recs b hb n hn⟩

theorem written_none_iff (hdr : List Nat) (recs : List (List Nat)) :
    written hdr recs = none ↔ 65535 < hdr.length ∨ ∃ r ∈ recs, 65535 < r.length := by
  have : written hdr recs = none ↔ encodeRecs (hdr :: recs) = none := by
    unfold written; split <;> simp [*]
  simp only [this, encodeRecs_none_iff, List.mem_cons, exists_eq_or_imp]

/-- **F9a**: saving with the pinned encoder "succeeds", but the snapshot does not load back: it frames
a record of 65536 bytes with the length bytes `0 0`, the reader sees an EMPTY record and takes the
65536 bytes for what follows. The fixed encoder returns an error instead. -/
theorem pinned_frame_wraps (r tl : List Nat) (hr : r.length = 65536) :
    encodeRecPinned r = [0, 0] ++ r ∧
    decodeRecs 1 (encodeRecsPinned [r] ++ tl) = some ([[]], r ++ tl) ∧
    encodeRec r = none ∧ encodeRecs [r] = none := by
  have hf : encodeRecPinned r = [0, 0] ++ r := by unfold encodeRecPinned u16; rw [hr]
  have hn : encodeRec r = none := (encodeRec_none_iff r).mpr (by omega)
  refine ⟨hf, ?_, hn, by simp only [encodeRecs, hn]⟩
  simp [encodeRecsPinned, hf, decodeRecs]

def bigRec : List Nat := List.replicate 65536 7

theorem pinned_frame_wraps_bigRec (tl : List Nat) :
    encodeRecPinned bigRec = [0, 0] ++ bigRec ∧
    decodeRecs 1 (encodeRecsPinned [bigRec] ++ tl) = some ([[]], bigRec ++ tl) ∧
    encodeRec bigRec = none ∧ encodeRecs [bigRec] = none :=
  pinned_frame_wraps bigRec tl List.length_replicate

end Orbit.Snap
