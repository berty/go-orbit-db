import OrbitModel.Model.Basic
import OrbitModel.Proofs.TravSort
/-!
# `Entry.lt` (LastWriteWins) is a strict order, total on a tie-free universe
-/
namespace Orbit

/-- excludes the pairs that `Entry.lt` orders neither way (equal time and clock id: see the comment there) -/
def TieFree (U : List Entry) : Prop :=
  ∀ a ∈ U, ∀ b ∈ U, a.time = b.time → a.cid = b.cid → a = b

/-- an entry is newer, in the log order, than everything it links. A hypothesis on the universe: it is derived
only for concrete universes (`decide`) and for a chain (`IsChain.clockMono`); what `append` does for it in
general is `append_time_gt_heads`. -/
def ClockMono (U : List Entry) : Prop :=
  ∀ p ∈ U, ∀ c ∈ U, c.hash ∈ p.next → Entry.lt c p = true

theorem Entry.lt_iff (a b : Entry) :
    Entry.lt a b = true ↔ a.time < b.time ∨ (a.time = b.time ∧ a.cid < b.cid) := by
  simp [Entry.lt]

theorem Entry.lt_irrefl (a : Entry) : Entry.lt a a = false := by
  rw [← Bool.not_eq_true, Entry.lt_iff]; omega

theorem Entry.not_lt_self (a : Entry) : ¬ Entry.lt a a = true := ne_true_of_eq_false (Entry.lt_irrefl a)

theorem Entry.lt_trans (a b c : Entry) (h1 : Entry.lt a b = true) (h2 : Entry.lt b c = true) :
    Entry.lt a c = true := by
  rw [Entry.lt_iff] at *; omega

theorem Entry.lt_time_le {a b : Entry} (h : Entry.lt a b = true) : a.time ≤ b.time := by
  rw [Entry.lt_iff] at h; omega

theorem Entry.lt_total {U : List Entry} (hT : TieFree U) (a : Entry) (ha : a ∈ U) (b : Entry)
    (hb : b ∈ U) (hne : a ≠ b) : Entry.lt a b = true ∨ Entry.lt b a = true := by
  rw [Entry.lt_iff, Entry.lt_iff]
  have notie : ¬ (a.time = b.time ∧ a.cid = b.cid) := fun h => hne (hT a ha b hb h.1 h.2)
  omega

theorem strictTotalOn_lt {U : List Entry} (hT : TieFree U) (S : List Entry) (hS : ∀ e ∈ S, e ∈ U) :
    Trav.StrictTotalOn Entry.lt S :=
  ⟨Entry.lt_irrefl, Entry.lt_trans,
    fun a ha b hb hne => Entry.lt_total hT a (hS a ha) b (hS b hb) hne⟩

end Orbit
