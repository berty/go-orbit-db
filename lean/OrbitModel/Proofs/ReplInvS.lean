import OrbitModel.Proofs.ReplInv
/-!
# Replicator: the structural invariant is preserved by the elementary moves

`enqd` (fresh hashes are queued) and `replace` (one worker moves on or leaves); its instances `drop`
(a worker gives up or fails: task deleted), `promote` (a waiting worker gets a slot), `toFin` (a fetch
returns: the worker buffers its log — unless it is foreign — and goes to `finishing`; the task stays
`fetching`) and `complete` (`processEntryDone`: the finishing worker goes, its task becomes `fetched`).
-/
namespace Orbit.Repl

theorem countP_spawn (ctx : Nat) (nw : List Nat) : (spawn ctx nw).countP isHold = 0 := by
  rw [List.countP_eq_zero]
  intro w hw
  obtain ⟨h, _, rfl⟩ := mem_spawn.1 hw
  simp

theorem filter_spawn (ctx : Nat) (nw : List Nat) : (spawn ctx nw).filter isWait = spawn ctx nw := by
  rw [List.filter_eq_self]
  intro w hw
  obtain ⟨h, _, rfl⟩ := mem_spawn.1 hw
  simp [isWait]

theorem nodup_split {l1 l2 : List Worker} {w : Worker}
    (h : ((l1 ++ w :: l2).map (·.item)).Nodup) :
    ((l1 ++ l2).map (·.item)).Nodup ∧ ∀ w' ∈ l1 ++ l2, w'.item ≠ w.item := by
  have := (List.perm_middle.map Worker.item).nodup h
  rw [List.map_cons, List.nodup_cons] at this
  exact ⟨this.2, fun w' hw' e => this.1 (e ▸ List.mem_map_of_mem hw')⟩

theorem filter_ne_items {l : List Worker} {h : Nat} (p : Worker → Bool) (hn : ∀ w' ∈ l, w'.item ≠ h) :
    ((l.filter p).map (·.item)).filter (· != h) = (l.filter p).map (·.item) := by
  rw [List.filter_eq_self]
  intro a ha
  obtain ⟨w', hw', rfl⟩ := List.mem_map.1 ha
  have := hn w' (List.mem_filter.1 hw').1
  simp [this]

/-- removing / promoting the waiting worker at a position removes exactly its item from the queue -/
theorem queue_drop {l1 l2 : List Worker} {w : Worker} (hw : isWait w = true)
    (hn : ∀ w' ∈ l1 ++ l2, w'.item ≠ w.item) :
    (((l1 ++ w :: l2).filter isWait).map (·.item)).filter (· != w.item)
      = ((l1 ++ l2).filter isWait).map (·.item) := by
  have h1 : ∀ w' ∈ l1, w'.item ≠ w.item := fun w' h => hn w' (List.mem_append.2 (Or.inl h))
  have h2 : ∀ w' ∈ l2, w'.item ≠ w.item := fun w' h => hn w' (List.mem_append.2 (Or.inr h))
  simp only [List.filter_append, List.filter_cons, hw, if_true, List.map_append, List.map_cons]
  rw [filter_ne_items isWait h1]
  simp only [bne_self_eq_false, Bool.false_eq_true, if_false]
  rw [filter_ne_items isWait h2]

theorem got_mono {s s' : St} (ht : ∀ k, task s k = some .fetched → task s' k = some .fetched)
    (hw : ∀ w ∈ s.workers, w.pc = .finishing → w ∈ s'.workers) {k : Nat} : got s k → got s' k := by
  rintro (hk | ⟨w, hm, e, hp⟩)
  · exact Or.inl (ht k hk)
  · exact Or.inr ⟨w, hw w hm hp, e, hp⟩

theorem InvS.enqd {net : Nat → Info} {s : St} (h : InvS net s) (ctx : Nat) {nw : List Nat}
    (hnd : nw.Nodup) (hnew : ∀ k ∈ nw, task s k = none) : InvS net (enqd s ctx nw) := by
  -- (inside this proof `enqd` alone is `InvS.enqd`)
  have hold : ∀ k t, task s k = some t → task (Orbit.Repl.enqd s ctx nw) k = some t := by
    intro k t hk
    rw [task_enqd]
    have : k ∉ nw := fun e => by rw [hnew k e] at hk; cases hk
    simp only [this, if_false]; exact hk
  have hitem : ∀ w ∈ s.workers, w.item ∉ nw := by
    intro w hw e
    have := h.w_task w hw
    rw [hnew _ e] at this; cases this
  exact {
    inprog_eq := by
      rw [enqd_inProgress, enqd_workers, List.countP_append, countP_spawn, Nat.add_zero]
      exact h.inprog_eq
    keys_nodup := keys_nodup_enqd ctx h.keys_nodup hnd hnew
    w_nodup := by
      rw [enqd_workers, List.map_append, spawn_items, List.nodup_append]
      refine ⟨h.w_nodup, hnd, ?_⟩
      intro a ha b hb e
      obtain ⟨w, hw, rfl⟩ := List.mem_map.1 ha
      exact hitem w hw (e ▸ hb)
    w_task := by
      intro w hw
      rcases List.mem_append.1 hw with hw | hw
      · exact hold _ _ (h.w_task w hw)
      · obtain ⟨k, hk, rfl⟩ := mem_spawn.1 hw
        rw [task_enqd, if_pos hk]; rfl
    task_w := by
      intro k t hk hne
      rw [task_enqd] at hk
      by_cases hkn : k ∈ nw
      · rw [if_pos hkn] at hk
        exact ⟨⟨ctx, k, .waitSlot⟩, List.mem_append.2 (.inr (mem_spawn.2 ⟨k, hkn, rfl⟩)), rfl,
          Option.some.inj hk⟩
      · rw [if_neg hkn] at hk
        obtain ⟨w, hw, e1, e2⟩ := h.task_w k t hk hne
        exact ⟨w, List.mem_append.2 (.inl hw), e1, e2⟩
    queue_eq := by
      rw [enqd_queue, enqd_workers, List.filter_append, filter_spawn, List.map_append, spawn_items,
        h.queue_eq]
    pend_fetched := fun b hb k hk =>
      ⟨hold _ _ (h.pend_fetched b hb k hk).1, (h.pend_fetched b hb k hk).2⟩
    buf_got := fun k hk =>
      ⟨got_mono (fun k hk => hold k _ hk) (fun w hw _ => List.mem_append.2 (.inl hw)) (h.buf_got k hk).1,
        (h.buf_got k hk).2⟩
    fin_buf := by
      intro w hw hp hf
      rcases List.mem_append.1 hw with hw | hw
      · exact h.fin_buf w hw hp hf
      · obtain ⟨k, _, rfl⟩ := mem_spawn.1 hw
        cases hp
    buf_nodup := h.buf_nodup
    log_nodup := h.log_nodup
    log_ok := fun k hk => ⟨hold _ _ (h.log_ok k hk).1, (h.log_ok k hk).2⟩
    fetched_in := by
      intro k hk hv hf
      rw [inBP_enqd]
      rw [task_enqd] at hk
      split at hk
      · cases hk
      · exact h.fetched_in k hk hv hf }

theorem worker_unique {l1 l2 : List Worker} {w w' : Worker}
    (hnd : ((l1 ++ w :: l2).map (·.item)).Nodup) (hm : w' ∈ l1 ++ w :: l2) (e : w'.item = w.item) :
    w' = w := by
  obtain ⟨_, hne⟩ := nodup_split hnd
  rcases List.mem_append_cons_iff.1 hm with rfl | hm
  · rfl
  · exact absurd e (hne w' hm)

theorem countP_mid (p : Worker → Bool) (l1 l2 r : List Worker) :
    (l1 ++ r ++ l2).countP p = (l1 ++ l2).countP p + r.countP p := by
  simp only [List.countP_append]; exact Nat.add_right_comm ..

theorem filter_mid (p : Worker → Bool) (l1 l2 : List Worker) {r : List Worker} (hr : r.filter p = []) :
    (l1 ++ r ++ l2).filter p = (l1 ++ l2).filter p := by
  simp only [List.filter_append, hr, List.append_nil]

/-- **one worker moves**: worker `w` is replaced by `r` (nobody, when it gives up, fails or is done;
itself at its next program counter otherwise), the task of its item becomes `t'`, and when it goes to
`finishing` with an entry of this log its hash is buffered. `hgone`: a worker that leaves takes its task with it
or leaves it `fetched`; `hdone`: a task becomes `fetched` exactly when the finishing worker leaves (so that what is
`fetched` was buffered: `fin_buf`); `hfin`: a worker arriving at `finishing` finds its hash in the buffer. -/
theorem InvS.replace {net : Nat → Info} {s s' : St} (h : InvS net s) {l1 l2 : List Worker} {w : Worker}
    (hw : s.workers = l1 ++ w :: l2) {r : Option Worker} {t' : Option TS}
    (hworkers : s'.workers = l1 ++ r.toList ++ l2)
    (hrepl : ∀ w2 ∈ r, w2.item = w.item ∧ t' = some (tsOf w2.pc) ∧ isWait w2 = false)
    (hgone : r = none → t' = none ∨ t' = some .fetched)
    (hdone : t' = some .fetched ↔ w.pc = .finishing)
    (hkeys : (s'.tasks.map (·.1)).Nodup) (htask : ∀ k, task s' k = if w.item = k then t' else task s k)
    (hinprog : s'.inProgress = s.inProgress + r.toList.countP isHold - [w].countP isHold)
    (hqueue : s'.queue = if isWait w then s.queue.filter (· != w.item) else s.queue)
    (hlog : s'.log = s.log) (hpend : s'.pending = s.pending)
    (hbuf : s'.buffer = s.buffer ∨ (s'.buffer = s.buffer ++ [w.item] ∧ (net w.item).foreign = false ∧
      ∃ w2 ∈ r, w2.pc = .finishing))
    (hfin : ∀ w2 ∈ r, w2.pc = .finishing → (net w.item).foreign = false → w.item ∈ s'.buffer) :
    InvS net s' := by
  have hnd := h.w_nodup; rw [hw] at hnd
  obtain ⟨hnd', hne⟩ := nodup_split hnd
  have hwm : w ∈ s.workers := hw ▸ List.mem_append_cons_self
  have hwt := h.w_task w hwm
  have hmem : ∀ w', w' ∈ s'.workers ↔ w' ∈ r ∨ (w' ∈ s.workers ∧ w'.item ≠ w.item) := by
    intro w'; rw [hworkers, hw]; simp only [List.mem_append, List.mem_cons, Option.mem_toList]
    constructor
    · rintro ((h' | h') | h')
      · exact .inr ⟨.inl h', hne w' (List.mem_append.2 (.inl h'))⟩
      · exact .inl h'
      · exact .inr ⟨.inr (.inr h'), hne w' (List.mem_append.2 (.inr h'))⟩
    · rintro (h' | ⟨h' | rfl | h', e⟩)
      · exact .inl (.inr h')
      · exact .inl (.inl h')
      · exact absurd rfl e
      · exact .inr h'
  have hsub : ∀ k ∈ s.buffer, k ∈ s'.buffer := by
    intro k hk
    rcases hbuf with e | ⟨e, _⟩ <;> rw [e]
    · exact hk
    · exact List.mem_append.2 (.inl hk)
  have hold : ∀ k t, task s k = some t → k ≠ w.item → task s' k = some t := by
    intro k t hk e; rw [htask, if_neg (Ne.symm e)]; exact hk
  have hfet : ∀ k, task s k = some .fetched → task s' k = some .fetched := by
    intro k hk
    refine hold k _ hk ?_
    rintro rfl; rw [hwt] at hk; exact tsOf_ne_fetched _ (Option.some.inj hk)
  -- the finishing worker of `s` bound to `w.item`, if there is one, is `w`: it is done in `s'`
  have hmine : ∀ w' ∈ s.workers, w'.item = w.item → w'.pc = .finishing → t' = some .fetched := by
    intro w' hm e hp
    rw [worker_unique hnd (hw ▸ hm) e] at hp; exact hdone.2 hp
  have hgot : ∀ k, got s k → got s' k := by
    rintro k (hk | ⟨w', hm, rfl, hp⟩)
    · exact .inl (hfet k hk)
    · by_cases e : w'.item = w.item
      · left; rw [htask, if_pos e.symm]; exact hmine w' hm e hp
      · exact .inr ⟨w', (hmem w').2 (.inr ⟨hm, e⟩), rfl, hp⟩
  exact {
    inprog_eq := by
      have := h.inprog_eq
      rw [hw, ← List.singleton_append, ← List.append_assoc, countP_mid] at this
      rw [hinprog, hworkers, countP_mid, this, Nat.add_right_comm, Nat.add_sub_cancel]
    keys_nodup := hkeys
    w_nodup := by
      rw [hworkers]
      cases r with
      | none => rw [Option.toList_none, List.append_nil]; exact hnd'
      | some w2 =>
        have e := (hrepl w2 rfl).1
        rw [Option.toList_some, List.append_assoc, List.singleton_append, List.map_append, List.map_cons, e]
        rw [List.map_append, List.map_cons] at hnd; exact hnd
    w_task := by
      intro w' hm
      rcases (hmem w').1 hm with hr' | ⟨hm, e⟩
      · obtain ⟨e1, e2, _⟩ := hrepl w' hr'
        rw [htask, e1, if_pos rfl]; exact e2
      · exact hold _ _ (h.w_task w' hm) e
    task_w := by
      intro k t hk hnf
      rw [htask] at hk
      by_cases e : w.item = k
      · rw [if_pos e] at hk
        cases r with
        | none =>
          rcases hgone rfl with h0 | h0 <;> rw [h0] at hk
          · cases hk
          · exact absurd (Option.some.inj hk).symm hnf
        | some w2 =>
          obtain ⟨e1, e2, _⟩ := hrepl w2 rfl
          rw [e2] at hk
          exact ⟨w2, (hmem w2).2 (.inl rfl), e1.trans e, Option.some.inj hk⟩
      · rw [if_neg e] at hk
        obtain ⟨w', hm, e1, e2⟩ := h.task_w k t hk hnf
        exact ⟨w', (hmem w').2 (.inr ⟨hm, e1 ▸ Ne.symm e⟩), e1, e2⟩
    queue_eq := by
      have hrw : r.toList.filter isWait = [] :=
        List.filter_eq_nil_iff.2 (fun w2 h2 => by rw [(hrepl w2 (Option.mem_toList.1 h2)).2.2]; exact Bool.false_ne_true)
      rw [hqueue, hworkers, h.queue_eq, hw, filter_mid _ _ _ hrw]
      by_cases hwq : isWait w = true
      · rw [if_pos hwq]; exact queue_drop hwq hne
      · rw [if_neg hwq, List.append_cons, filter_mid _ _ _ (List.filter_cons_of_neg hwq)]
    pend_fetched := by
      intro b' hb' k hk
      have := h.pend_fetched b' (hpend ▸ hb') k hk
      exact ⟨hfet k this.1, this.2⟩
    buf_got := by
      intro k hk
      rcases hbuf with e | ⟨e, hf, w2, hw2, hp⟩ <;> rw [e] at hk
      · exact ⟨hgot k (h.buf_got k hk).1, (h.buf_got k hk).2⟩
      · rcases List.mem_append.1 hk with hk | hk
        · exact ⟨hgot k (h.buf_got k hk).1, (h.buf_got k hk).2⟩
        · rw [List.mem_singleton.1 hk]
          exact ⟨.inr ⟨w2, (hmem w2).2 (.inl hw2), (hrepl w2 hw2).1, hp⟩, hf⟩
    fin_buf := by
      intro w' hm hp hf
      rcases (hmem w').1 hm with hr' | ⟨hm, _⟩
      · have e := (hrepl w' hr').1
        rw [e] at hf ⊢
        exact hfin w' hr' hp hf
      · exact hsub _ (h.fin_buf w' hm hp hf)
    buf_nodup := by
      rcases hbuf with e | ⟨e, _, w2, hw2, _⟩ <;> rw [e]
      · exact h.buf_nodup
      · -- the hash this move buffers is not there yet: its worker is still fetching in `s`
        refine List.nodup_append.2 ⟨h.buf_nodup, by simp, ?_⟩
        rintro a ha _ hb' rfl
        rw [List.mem_singleton.1 hb'] at ha
        have ht2 := (hrepl w2 hw2).2.1
        rcases (h.buf_got _ ha).1 with hg | ⟨w', hm, e, hp⟩
        · rw [hwt] at hg; exact tsOf_ne_fetched _ (Option.some.inj hg)
        · rw [hmine w' hm e hp] at ht2; exact tsOf_ne_fetched _ (Option.some.inj ht2).symm
    log_nodup := hlog ▸ h.log_nodup
    log_ok := by
      intro k hk
      have := h.log_ok k (hlog ▸ hk)
      exact ⟨hfet k this.1, this.2⟩
    fetched_in := by
      intro k hk hv hf
      rw [hlog]
      rw [htask] at hk
      by_cases e : w.item = k
      · rw [if_pos e] at hk
        exact .inr (.inl (hsub _ (e ▸ h.fin_buf w hwm (hdone.1 hk) (e ▸ hf))))
      · rw [if_neg e] at hk
        rcases h.fetched_in k hk hv hf with h' | h' | h'
        · exact .inl h'
        · exact .inr (.inl (hsub _ h'))
        · exact .inr (.inr (hpend ▸ h')) }

theorem InvS.drop {net : Nat → Info} {s s' : St} (h : InvS net s) {l1 l2 : List Worker} {w : Worker}
    (hw : s.workers = l1 ++ w :: l2) (hpc : w.pc ≠ .finishing) (h1 : s'.workers = l1 ++ l2)
    (h2 : s'.tasks = s.tasks.filter (·.1 != w.item))
    (h3 : s'.inProgress = s.inProgress - [w].countP isHold)
    (h4 : s'.queue = if isWait w then s.queue.filter (· != w.item) else s.queue)
    (h5 : s'.log = s.log) (h6 : s'.buffer = s.buffer) (h7 : s'.pending = s.pending) : InvS net s' :=
  h.replace hw (r := none) (t' := none)
    (hworkers := by rw [h1, Option.toList_none, List.append_nil]) (hrepl := nofun)
    (hgone := fun _ => .inl rfl) (hdone := ⟨nofun, fun e => absurd e hpc⟩)
    (hkeys := h2 ▸ keys_nodup_filter _ h.keys_nodup) (htask := task_of_tasks_filter h2)
    (hinprog := h3) (hqueue := h4) (hlog := h5) (hpend := h7) (hbuf := .inl h6) (hfin := nofun)

theorem InvS.promote {net : Nat → Info} {s s' : St} (h : InvS net s) {l1 l2 : List Worker}
    {ctx hh : Nat} (hw : s.workers = l1 ++ ⟨ctx, hh, .waitSlot⟩ :: l2)
    (h1 : s'.workers = l1 ++ ⟨ctx, hh, .fetching⟩ :: l2)
    (h2 : s'.tasks = (hh, .fetching) :: s.tasks.filter (·.1 != hh))
    (h3 : s'.inProgress = s.inProgress + 1)
    (h4 : s'.queue = s.queue.filter (· != hh))
    (h5 : s'.log = s.log) (h6 : s'.buffer = s.buffer) (h7 : s'.pending = s.pending) : InvS net s' :=
  h.replace hw (r := some ⟨ctx, hh, .fetching⟩) (t' := some .fetching)
    (hworkers := by rw [h1]; exact List.append_cons ..)
    (hrepl := fun _ e => Option.some.inj e ▸ ⟨rfl, rfl, rfl⟩) (hgone := nofun) (hdone := ⟨nofun, nofun⟩)
    (hkeys := h2 ▸ keys_nodup_set _ _ h.keys_nodup) (htask := task_of_tasks_set h2)
    (hinprog := h3) (hqueue := h4) (hlog := h5) (hpend := h7) (hbuf := .inl h6) (hfin := nofun)

theorem InvS.toFin {net : Nat → Info} {s s' : St} (h : InvS net s) {l1 l2 : List Worker}
    {ctx hh : Nat} (hw : s.workers = l1 ++ ⟨ctx, hh, .fetching⟩ :: l2)
    (h1 : s'.workers = l1 ++ ⟨ctx, hh, .finishing⟩ :: l2)
    (h2 : s'.tasks = s.tasks) (h3 : s'.inProgress = s.inProgress) (h4 : s'.queue = s.queue)
    (h5 : s'.log = s.log)
    (h6 : ((net hh).foreign = true ∧ s'.buffer = s.buffer) ∨
          ((net hh).foreign = false ∧ s'.buffer = s.buffer ++ [hh]))
    (h7 : s'.pending = s.pending) : InvS net s' := by
  have hwt : task s hh = some .fetching :=
    h.w_task ⟨ctx, hh, .fetching⟩ (hw ▸ List.mem_append_cons_self)
  refine h.replace hw (r := some ⟨ctx, hh, .finishing⟩) (t' := some .fetching)
    (hworkers := by rw [h1]; exact List.append_cons ..)
    (hrepl := fun _ e => Option.some.inj e ▸ ⟨rfl, rfl, rfl⟩) (hgone := nofun) (hdone := ⟨nofun, nofun⟩)
    (hkeys := h2 ▸ h.keys_nodup) (htask := ?_) (hinprog := h3) (hqueue := h4) (hlog := h5) (hpend := h7)
    (hbuf := ?_) (hfin := ?_)
  · intro k
    rw [task_congr h2]
    split
    · next e => rw [← e]; exact hwt
    · rfl
  · exact h6.imp (·.2) fun ⟨hf, e⟩ => ⟨e, hf, _, rfl, rfl⟩
  · intro _ _ _ hf
    rcases h6 with ⟨hf', _⟩ | ⟨_, e⟩
    · rw [show (net hh).foreign = false from hf] at hf'; cases hf'
    · rw [e]; exact List.mem_append_cons_self

theorem InvS.complete {net : Nat → Info} {s s' : St} (h : InvS net s) {l1 l2 : List Worker}
    {ctx hh : Nat} (hw : s.workers = l1 ++ ⟨ctx, hh, .finishing⟩ :: l2)
    (h1 : s'.workers = l1 ++ l2)
    (h2 : s'.tasks = (hh, .fetched) :: s.tasks.filter (·.1 != hh))
    (h3 : s'.inProgress = s.inProgress - 1) (h4 : s'.queue = s.queue)
    (h5 : s'.log = s.log) (h6 : s'.buffer = s.buffer) (h7 : s'.pending = s.pending) :
    InvS net s' :=
  h.replace hw (r := none) (t' := some .fetched)
    (hworkers := by rw [h1, Option.toList_none, List.append_nil]) (hrepl := nofun)
    (hgone := fun _ => .inr rfl) (hdone := ⟨fun _ => rfl, fun _ => rfl⟩)
    (hkeys := h2 ▸ keys_nodup_set _ _ h.keys_nodup) (htask := task_of_tasks_set h2)
    (hinprog := h3) (hqueue := h4) (hlog := h5) (hpend := h7) (hbuf := .inl h6) (hfin := nofun)

end Orbit.Repl
