/-!
# Three list lemmas that core lacks
-/

theorem List.forall_mem_set {α : Type} {Q : α → Prop} {l : List α} {a : α} (ha : Q a)
    (hl : ∀ x ∈ l, Q x) (i : Nat) : ∀ x ∈ l.set i a, Q x :=
  fun x hx => (List.mem_or_eq_of_mem_set hx).elim (hl x) (· ▸ ha)

theorem List.nodup_eraseDups {α : Type} [BEq α] [LawfulBEq α] (l : List α) : l.eraseDups.Nodup := by
  induction hn : l.length using Nat.strongRecOn generalizing l with
  | _ n ih =>
    cases l with
    | nil => exact List.nodup_nil
    | cons a l =>
      rw [List.eraseDups_cons, List.nodup_cons, List.mem_eraseDups]
      exact ⟨by simp, ih _ (hn ▸ Nat.lt_succ_of_le (List.length_filter_le ..)) _ rfl⟩

theorem List.mem_append_cons_iff {α : Type} {l₁ l₂ : List α} {a x : α} :
    x ∈ l₁ ++ a :: l₂ ↔ x = a ∨ x ∈ l₁ ++ l₂ := by
  simp only [List.mem_append, List.mem_cons]
  exact ⟨fun h => h.elim (.inr ∘ .inl) (·.imp_right .inr), fun h => h.elim (.inr ∘ .inl) (·.imp_right .inr)⟩
