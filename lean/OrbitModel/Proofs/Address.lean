import OrbitModel.Proofs.AddressSplit
/-!
# Database addresses: `DetermineAddress`, `Parse`/`String`, cache directory keys   (C14, C18)

The address `determine` answers always has the manifest hash `h` as its root, so different (name, type,
access controller) triples get different addresses. A name that stays below its root gets
`/orbitdb/<h>/<cleaned name>`; one that climbs above is joined to a path in which `h` plays no part (what the
pinned tree answered) and is accepted only if that path re-enters `h`. The addresses answered are well formed
(`WF`); on those `Parse (String a) = a`, and cache directories under different roots are not nested.
-/
namespace Orbit.Path

theorem determine_eq_some_iff {isCid : String → Bool} {h name : String} {a : Addr} :
    determine isCid h name = some a ↔
      isAddress isCid name = false ∧ parse0 isCid (joinAddr h name) = some a ∧ a.root = h := by
  unfold determine
  cases isAddress isCid name <;> cases parse0 isCid (joinAddr h name) <;> simp
  -- left: no address, parsed to some `b`: `b.root = h ∧ b = a ↔ b = a ∧ a.root = h`
  exact ⟨fun ⟨h1, h2⟩ => ⟨h2, h2 ▸ h1⟩, fun ⟨h1, h2⟩ => ⟨h1 ▸ h2, h1⟩⟩

theorem determine_root {isCid : String → Bool} {h name : String} {a : Addr}
    (hd : determine isCid h name = some a) : a.root = h := (determine_eq_some_iff.mp hd).2.2

/-- `p` is a `/`-joined list of plain segments (no `.`, `..`, empty segment): what `path.Clean` leaves alone -/
def CleanPath (p : String) : Prop := ∃ segs : List String, (∀ x ∈ segs, Seg x) ∧ p = "/".intercalate segs

/-- the addresses that `parse` reads back from their printed form (`parse_print`): a CID for a root, a clean path -/
def WF (isCid : String → Bool) (a : Addr) : Prop := isCid a.root = true ∧ Seg a.root ∧ CleanPath a.path

theorem foldl_cleanStep_cleanPath (st : List String) {segs : List String} (h : ∀ x ∈ segs, Seg x) :
    (segments ("/".intercalate segs)).foldl cleanStep st = st ++ segs := by
  rw [segments_intercalate segs (fun x hx => (h x hx).2)]
  by_cases hnil : segs = []
  · subst hnil; simp [cleanStep_skip]
  · rw [if_neg hnil, foldl_cleanStep_plain _ _ (fun x hx => (h x hx).1)]

theorem seg_of_mem_joined {h : String} (hh : Seg h) (name : String) :
    ∀ x ∈ cleanAbs (["orbitdb", h] ++ segments name), Seg x := by
  intro x hx
  obtain ⟨hm, hp⟩ := cleanAbs_mem _ x hx
  refine ⟨hp, ?_⟩
  simp only [List.cons_append, List.nil_append, List.mem_cons] at hm
  rcases hm with rfl | rfl | hm
  · decide +kernel
  · exact hh.2
  · exact segments_noSlash name x hm

theorem determine_eq_some_iff_cleanAbs {isCid : String → Bool} {h : String} (hc : isCid h = true) (hh : Seg h)
    (name : String) (a : Addr) :
    determine isCid h name = some a ↔
      isAddress isCid name = false ∧ ∃ rest,
        cleanAbs (["orbitdb", h] ++ segments name) = "orbitdb" :: h :: rest ∧
        a = ⟨h, "/".intercalate rest⟩ := by
  have hseg := seg_of_mem_joined hh name
  constructor
  · intro hd
    obtain ⟨hn, hp, hr⟩ := determine_eq_some_iff.mp hd
    refine ⟨hn, ?_⟩
    unfold joinAddr at hp
    rcases parse_render isCid _ (fun x hx => (hseg x hx).2) a hp with h0 | ⟨rest, hcl, hpath, _⟩
    · exact absurd (hr ▸ h0) hh.1.1
    · refine ⟨rest, by rw [hcl, hr], ?_⟩
      cases a; simp only at hr hpath; subst hr hpath; rfl
  · rintro ⟨hn, rest, hcl, rfl⟩
    refine determine_eq_some_iff.mpr ⟨hn, ?_, rfl⟩
    unfold joinAddr
    rw [hcl]
    refine parse_render_root isCid h rest ?_ hc
    intro x hx
    exact (hseg x (by rw [hcl]; exact List.mem_cons_of_mem _ hx)).2

theorem determine_wf {isCid : String → Bool} {h name : String} {a : Addr} (hc : isCid h = true)
    (hh : Seg h) (hd : determine isCid h name = some a) : WF isCid a := by
  obtain ⟨_, rest, hcl, rfl⟩ := (determine_eq_some_iff_cleanAbs hc hh name a).mp hd
  refine ⟨hc, hh, rest, ?_, rfl⟩
  intro x hx
  exact seg_of_mem_joined hh name x (by rw [hcl]; exact List.mem_cons_of_mem _ (List.mem_cons_of_mem _ hx))

theorem determine_below {isCid : String → Bool} {h : String} (hc : isCid h = true) (hh : Seg h)
    (name : String) (hn : isAddress isCid name = false) (hs : staysBelow (segments name) = true) :
    determine isCid h name = some ⟨h, "/".intercalate (cleanAbs (segments name))⟩ :=
  (determine_eq_some_iff_cleanAbs hc hh name _).mpr ⟨hn, _, clean_below hh.1 _ hs, rfl⟩

theorem joinAddr_escape {h h' : String} (hh : Plain h) (hh' : Plain h') (name : String)
    (hs : staysBelow (segments name) = false) : joinAddr h name = joinAddr h' name := by
  unfold joinAddr; rw [clean_escape hh hh' _ hs]

/-- for a name that climbs above its root the pinned tree answered the same address whatever manifest was
hashed (finding F10) -/
theorem determinePinned_escape {isCid : String → Bool} {h h' : String} (hh : Plain h) (hh' : Plain h')
    (name : String) (hs : staysBelow (segments name) = false) :
    determinePinned isCid h name = determinePinned isCid h' name := by
  unfold determinePinned; rw [joinAddr_escape hh hh' name hs]

/-- after the `fix:` commit a name that climbs above its root is accepted for one manifest hash at most -/
theorem determine_escape_unique {isCid : String → Bool} {h h' : String} (hh : Plain h) (hh' : Plain h')
    (name : String) (hs : staysBelow (segments name) = false) {a a' : Addr}
    (hd : determine isCid h name = some a) (hd' : determine isCid h' name = some a') : h = h' := by
  obtain ⟨_, hp, hr⟩ := determine_eq_some_iff.mp hd
  obtain ⟨_, hp', hr'⟩ := determine_eq_some_iff.mp hd'
  rw [joinAddr_escape hh hh' name hs, hp'] at hp
  rw [← hr, ← hr', Option.some.inj hp]

theorem staysBelowRoot_iff {isCid : String → Bool} {a : Addr} :
    staysBelowRoot isCid a = true ↔ ∃ b, parse0 isCid (print a) = some b ∧ b.root = a.root := by
  unfold staysBelowRoot
  cases parse0 isCid (print a) <;> simp

theorem parse_eq_some_iff {isCid : String → Bool} {s : String} {a : Addr} :
    parse isCid s = some a ↔ parse0 isCid s = some a ∧ staysBelowRoot isCid a = true := by
  unfold parse
  cases parse0 isCid s with
  | none => simp
  | some a0 =>
    simp only [Option.ite_none_right_eq_some, Option.some.injEq]
    constructor
    · rintro ⟨h, rfl⟩; exact ⟨rfl, h⟩
    · rintro ⟨rfl, h⟩; exact ⟨h, rfl⟩

theorem parse_of_parse0 {isCid : String → Bool} {s : String} {a : Addr}
    (h0 : parse0 isCid s = some a) (hp : parse0 isCid (print a) = some a) : parse isCid s = some a :=
  parse_eq_some_iff.mpr ⟨h0, staysBelowRoot_iff.mpr ⟨a, hp, rfl⟩⟩

theorem parse_none_of_parse0 {isCid : String → Bool} {s : String}
    (h : parse0 isCid s = none) : parse isCid s = none := by
  unfold parse
  rw [h]

theorem parse0_print {isCid : String → Bool} {a : Addr} (hw : WF isCid a) :
    parse0 isCid (print a) = some a := by
  obtain ⟨hc, hr, segs, hsegs, hpath⟩ := hw
  have hcl : cleanAbs (["orbitdb", a.root] ++ segments a.path) = "orbitdb" :: a.root :: segs := by
    rw [cleanAbs_root hr.1, hpath, foldl_cleanStep_cleanPath _ hsegs]; rfl
  unfold print joinAddr
  rw [hcl, parse_render_root isCid a.root segs _ hc]
  · cases a; simp only at hpath; subst hpath; rfl
  · intro x hx
    rcases List.mem_cons.mp hx with rfl | hx
    · exact hr.2
    · exact (hsegs x hx).2

theorem parse_print {isCid : String → Bool} {a : Addr} (hw : WF isCid a) :
    parse isCid (print a) = some a := parse_of_parse0 (parse0_print hw) (parse0_print hw)

theorem determine_parse_print {isCid : String → Bool} {h name : String} {a : Addr}
    (hc : isCid h = true) (hh : Seg h) (hd : determine isCid h name = some a) :
    parse isCid (print a) = some a := parse_print (determine_wf hc hh hd)

theorem datastoreKey_wf {dir segs : List String} {a : Addr} (hdir : ∀ x ∈ dir, Plain x)
    (hr : Plain a.root) (hsegs : ∀ x ∈ segs, Seg x) (hpath : a.path = "/".intercalate segs) :
    datastoreKey dir a = dir ++ [a.root] ++ segs := by
  unfold datastoreKey
  rw [cleanAbs_append, cleanAbs_plain, hpath, foldl_cleanStep_cleanPath _ hsegs]
  intro x hx
  rcases List.mem_append.mp hx with hx | hx
  · exact hdir x hx
  · rw [List.mem_singleton] at hx; subst hx; exact hr

/-- `Drop` of one store cannot reach another's cache -/
theorem drop_scope {isCid : String → Bool} {dir : List String} {a b : Addr} (hdir : ∀ x ∈ dir, Plain x)
    (ha : WF isCid a) (hb : WF isCid b) (hne : a.root ≠ b.root) :
    ¬ (datastoreKey dir a <+: datastoreKey dir b) := by
  obtain ⟨_, har, sa, hsa, hpa⟩ := ha
  obtain ⟨_, hbr, sb, hsb, hpb⟩ := hb
  rw [datastoreKey_wf hdir har.1 hsa hpa, datastoreKey_wf hdir hbr.1 hsb hpb]
  intro hp
  rw [List.append_assoc, List.append_assoc, List.prefix_append_right_inj] at hp
  exact hne (List.cons_prefix_cons.mp hp).1

/-- CIDs of the examples: strings starting with `@` -/
def atCid (s : String) : Bool := hasPrefix "@" s

example : determine atCid "@H" "" = some ⟨"@H", ""⟩ := by decide +kernel
example : determine atCid "@H" "a//b/./c/" = some ⟨"@H", "a/b/c"⟩ := by decide +kernel
example : determine atCid "@H" "x/../../@H/y" = some ⟨"@H", "y"⟩ := by decide +kernel   -- re-enters `@H`
example : determine atCid "@H" "/orbitdb/@V/x" = none := by decide +kernel             -- already an address
example : determine atCid "@H" "../.." = none := by decide +kernel
theorem atCid_H : atCid "@H" = true := by decide +kernel
theorem seg_H : Seg "@H" := by decide +kernel
example : parse0 atCid (print ⟨"@H", ""⟩) = some ⟨"@H", ""⟩ := parse0_print ⟨atCid_H, seg_H, [], by simp, rfl⟩
example : parse0 atCid (print ⟨"@H", "a/b/c"⟩) = some ⟨"@H", "a/b/c"⟩ :=
  parse0_print ⟨atCid_H, seg_H, ["a", "b", "c"], by decide +kernel, by decide +kernel⟩
example : parse0 atCid (print ⟨"@H", "é/ü/日本"⟩) = some ⟨"@H", "é/ü/日本"⟩ :=
  parse0_print ⟨atCid_H, seg_H, ["é", "ü", "日本"], by decide +kernel, by decide +kernel⟩
/-- an ill-formed path is not a fixed point: `Parse ∘ String` cleans it -/
example : parse0 atCid (print ⟨"@H", "a/../b"⟩) = some ⟨"@H", "b"⟩ := by decide +kernel
example : WF atCid ⟨"@H", "a/b"⟩ := ⟨atCid_H, seg_H, ["a", "b"], by decide +kernel, by decide +kernel⟩
example : datastoreKey ["tmp", "cache"] ⟨"@H", "a/b"⟩ = ["tmp", "cache", "@H", "a", "b"] := by decide +kernel
/-- without `CleanPath` a `..` in the path climbs into the neighbour's directory -/
example : datastoreKey ["c"] ⟨"@H", "../@V"⟩ <+: datastoreKey ["c"] ⟨"@V", "x"⟩ := by decide +kernel
example : determine atCid "@H" "shop" = some ⟨"@H", "shop"⟩ :=
  (determine_below atCid_H seg_H "shop" (by decide +kernel) (by decide +kernel)).trans (by decide +kernel)

end Orbit.Path
