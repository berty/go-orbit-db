import OrbitModel.Model.Decode
/-!
# `Sync` on decoded heads never dereferences nil   (C12, decode part)
-/
namespace Orbit

/-- a head is handed to the replicator iff it is complete and the access controller admits it -/
def RawHead.loadable0 (acl : Acl) (h : RawHead) : Bool := h.complete && acl.canAppend h.entry

/-- one turn of the pre-check loop: the three tests are two, "does the head count" and "is its hash right" -/
theorem syncHeads0_cons (acl : Acl) (x : RawHead) (hs : List RawHead) (acc : List Entry) :
    syncHeads0 acl (x :: hs) acc =
      if !x.loadable0 acl then syncHeads0 acl hs acc
      else if !x.entry.hashOk then .err else syncHeads0 acl hs (x.entry :: acc) := by
  rw [syncHeads0, RawHead.loadable0]
  cases x.complete <;> cases acl.canAppend x.entry <;> rfl

/-- the pre-check loop in closed form; everything below is read off this equation -/
theorem syncHeads0_eq (acl : Acl) (hs : List RawHead) (acc : List Entry) :
    syncHeads0 acl hs acc =
      if (hs.filter (RawHead.loadable0 acl)).all (·.entry.hashOk)
      then .load (acc.reverse ++ (hs.filter (RawHead.loadable0 acl)).map RawHead.entry) else .err := by
  induction hs generalizing acc with
  | nil => simp [syncHeads0]
  | cons x hs ih =>
    rw [syncHeads0_cons, List.filter_cons]
    cases x.loadable0 acl
    · exact ih acc
    · cases hh : x.entry.hashOk <;> simp [ih, hh]

theorem syncHeads0_never_panics (acl : Acl) (hs : List RawHead) (acc : List Entry) :
    syncHeads0 acl hs acc ≠ .panic := by
  rw [syncHeads0_eq]; split <;> simp

theorem syncHeads0_loads_exactly_loadable (acl : Acl) (hs : List RawHead) (es : List Entry)
    (h : syncHeads0 acl hs [] = .load es) :
    es = (hs.filter (RawHead.loadable0 acl)).map RawHead.entry := by
  rw [syncHeads0_eq] at h
  split at h
  · injection h with h; exact h.symm
  · cases h

theorem syncHeads0_loads_only_complete (acl : Acl) (hs : List RawHead) (es : List Entry)
    (h : syncHeads0 acl hs [] = .load es) :
    es.Sublist ((hs.filter RawHead.complete).map RawHead.entry) ∧
    ∀ e ∈ es, ∃ r ∈ hs, r.complete = true ∧ acl.canAppend r.entry = true ∧ r.entry = e := by
  have heq := syncHeads0_loads_exactly_loadable acl hs es h
  subst heq
  refine ⟨?_, ?_⟩
  · have hf : hs.filter (RawHead.loadable0 acl) =
        (hs.filter RawHead.complete).filter (fun r => acl.canAppend r.entry) := by
      rw [List.filter_filter]; congr 1; funext r; simp [RawHead.loadable0, Bool.and_comm]
    rw [hf]
    exact List.filter_sublist.map _
  · intro e he
    simp only [List.mem_map, List.mem_filter, RawHead.loadable0, Bool.and_eq_true] at he
    obtain ⟨r, ⟨hr, hc, ha⟩, rfl⟩ := he
    exact ⟨r, hr, hc, ha, rfl⟩

theorem syncHeads0_err_of_bad_hash (acl : Acl) (hs : List RawHead) (acc : List Entry) (r : RawHead)
    (hr : r ∈ hs) (hc : r.complete = true) (hca : acl.canAppend r.entry = true)
    (hbad : r.entry.hashOk = false) : syncHeads0 acl hs acc = .err := by
  rw [syncHeads0_eq, if_neg]
  intro hall
  have := List.all_eq_true.1 hall r (List.mem_filter.2 ⟨hr, by simp [RawHead.loadable0, hc, hca]⟩)
  simp [hbad] at this

theorem syncHeads0_hash (acl : Acl) (hs : List RawHead) (es : List Entry)
    (h : syncHeads0 acl hs [] = .load es) :
    ∀ r ∈ hs, r.complete = true → acl.canAppend r.entry = true → r.entry.hashOk = true := by
  intro r hr hc hca
  cases hh : r.entry.hashOk with
  | true => rfl
  | false => rw [syncHeads0_err_of_bad_hash acl hs [] r hr hc hca hh] at h; cases h

theorem syncPinned_null_panics_later (acl : Acl) (e : Entry) (hca : acl.canAppendPinned e = false) :
    syncPinned acl [{ entry := e }, { isNull := true }] [] = .panic := by
  simp [syncPinned, hca]

theorem syncPinned_noclock_panics (acl : Acl) (e : Entry) (hca : acl.canAppendPinned e = true) :
    syncPinned acl [{ hasClock := false, entry := e }] [] = .panic := by
  simp [syncPinned, hca]

theorem syncPinned_agrees_on_complete (acl : Acl) (hs : List RawHead) (acc : List Entry)
    (hc : ∀ r ∈ hs, r.complete = true)
    (hca : ∀ r ∈ hs, acl.canAppendPinned r.entry = acl.canAppend r.entry) :
    syncPinned acl hs acc = syncHeadsLoadsRefused acl hs acc := by
  induction hs generalizing acc with
  | nil => rfl
  | cons x hs ih =>
    have hx := hc x (List.mem_cons_self ..)
    have hax := hca x (List.mem_cons_self ..)
    have ih' := fun acc => ih acc (fun r hr => hc r (List.mem_cons_of_mem _ hr))
      (fun r hr => hca r (List.mem_cons_of_mem _ hr))
    unfold RawHead.complete at hx
    simp only [Bool.and_eq_true, Bool.not_eq_true'] at hx
    obtain ⟨⟨⟨h1, h2⟩, h3⟩, h4⟩ := hx
    unfold syncPinned syncHeadsLoadsRefused
    simp only [RawHead.complete, h1, h2, h3, h4, hax, ih', Bool.not_true, Bool.not_false,
      Bool.and_self, Bool.or_false, Bool.false_eq_true, if_false]

/-- a head is handed to the replicator iff it is complete, was written for this log, and the access
controller admits it -/
def RawHead.loadable (acl : Acl) (id : Nat) (h : RawHead) : Bool :=
  h.complete && (h.entry.logId == id && h.entry.sigOk) && acl.canAppend h.entry

theorem filter_ownLog_loadable0 (acl : Acl) (id : Nat) (hs : List RawHead) :
    (hs.filter (ownLog id)).filter (RawHead.loadable0 acl) = hs.filter (RawHead.loadable acl id) := by
  rw [List.filter_filter]
  congr 1
  funext h
  have : ∀ c o a : Bool, ((c && a) && (!c || o)) = (c && o && a) := by decide
  exact this ..

theorem syncHeads_loads_exactly_loadable (acl : Acl) (id : Nat) (hs : List RawHead) (es : List Entry)
    (h : syncHeads acl id hs [] = .load es) :
    es = (hs.filter (RawHead.loadable acl id)).map RawHead.entry := by
  unfold syncHeads at h
  rw [syncHeads0_loads_exactly_loadable acl _ es h, filter_ownLog_loadable0]

theorem syncHeads_loads_only_own_admitted (acl : Acl) (id : Nat) (hs : List RawHead) (es : List Entry)
    (h : syncHeads acl id hs [] = .load es) :
    ∀ e ∈ es, ∃ r ∈ hs, r.complete = true ∧ r.entry.logId = id ∧ r.entry.sigOk = true ∧
      acl.canAppend r.entry = true ∧ r.entry = e := by
  have heq := syncHeads_loads_exactly_loadable acl id hs es h
  subst heq
  intro e he
  simp only [List.mem_map, List.mem_filter, RawHead.loadable, Bool.and_eq_true, beq_iff_eq] at he
  obtain ⟨r, ⟨hr, ⟨hc, hl, hs'⟩, ha⟩, rfl⟩ := he
  exact ⟨r, hr, hc, hl, hs', ha, rfl⟩

theorem syncHeads_never_panics (acl : Acl) (id : Nat) (hs : List RawHead) (acc : List Entry) :
    syncHeads acl id hs acc ≠ .panic := syncHeads0_never_panics acl _ acc

/-- a malformed or refused message does not change how the listener handles the ones before and after it
(`handleMessage` at its default log id 1) -/
theorem each_message_handled_alone (acl : Acl) (pre post : List Decoded) (m : Decoded) :
    ((pre ++ m :: post).map (handleMessage acl))[pre.length]? = some (handleMessage acl m) := by
  simp

theorem runListener_handles_all (acl : Acl) (ms : List Decoded) :
    runListener false acl ms = ms.map (handleMessage acl) := by
  induction ms with
  | nil => rfl
  | cons m ms ih =>
    unfold runListener
    cases h : handleMessage acl m <;> simp [ih, h]

section Examples

private def e1 : Entry := { hash := 1, logId := 1, time := 1, cid := 0, next := [], ident := 7, key := 7 }
private def e2 : Entry := { hash := 2, logId := 1, time := 2, cid := 0, next := [1], ident := 7, key := 7 }
private def eBad : Entry := { e2 with hashOk := false }
private def acl7 : Acl := { ids := [7] }

private def isLoad (o : SyncOutcome) (hs : List Nat) : Bool :=
  match o with | .load es => es.map (·.hash) == hs | _ => false
private def isErr : SyncOutcome → Bool | .err => true | _ => false
private def isPanic : SyncOutcome → Bool | .panic => true | _ => false

-- null and incomplete heads are skipped; the complete ones are loaded in order
example : isLoad (syncHeads0 acl7 [{ isNull := true }, { entry := e1 }, { hasClock := false }, { entry := e2 }] [])
    [1, 2] = true := by decide
-- a bad hash on an admitted head refuses the message
example : isErr (syncHeads0 acl7 [{ entry := e1 }, { entry := eBad }] []) = true := by decide
-- the pinned tree panics on a null head
example : isPanic (syncPinned acl7 [{ entry := e1 }, { isNull := true }] []) = true := by decide
example : isLoad (syncPinned acl7 [{ entry := e1 }, { entry := e2 }] []) [1, 2] = true := by decide
-- a valid message after garbage is handled as if alone
example : ([Decoded.undecodable, .heads [{ isNull := true }], .heads [{ entry := e1 }]].map
    (fun m => isLoad (handleMessage acl7 m) [1])) = [false, false, true] := by decide

end Examples

end Orbit
