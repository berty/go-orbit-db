import OrbitModel.Model.Replicator
/-!
# Replicator: elementary facts about the primitives
-/
namespace Orbit.Repl

/-- the task state a worker at program counter `pc` has given its item -/
def tsOf : PC → TS
  | .waitSlot => .added
  | .fetching => .fetching
  | .finishing => .fetching

theorem tsOf_ne_fetched (pc : PC) : tsOf pc ≠ .fetched := by cases pc <;> nofun

/-- a worker bound to `h` has buffered its log and queued its parents, and has not yet run
`processEntryDone` -/
def finAt (s : St) (h : Nat) : Prop := ∃ w ∈ s.workers, w.item = h ∧ w.pc = .finishing

/-- the entry `h` has been fetched: its task says so, or its worker is about to say so -/
def got (s : St) (h : Nat) : Prop := task s h = some .fetched ∨ finAt s h

/-- `h` sits in the buffer or in a `LoadEnd` batch that the store has not handled yet -/
def inBP (s : St) (h : Nat) : Prop := h ∈ s.buffer ∨ ∃ b ∈ s.pending, h ∈ b

/-- the replicator has not forgotten `h`: it is in the oplog, or has a task (any state), or is
remembered in `failed` for the next `Load` -/
def tracked (s : St) (h : Nat) : Prop := h ∈ s.log ∨ task s h ≠ none ∨ h ∈ s.failed

def lookup (ts : List (Nat × TS)) (h : Nat) : Option TS := (ts.find? (·.1 == h)).map (·.2)

theorem task_def (s : St) (h : Nat) : task s h = lookup s.tasks h := rfl

@[simp] theorem lookup_nil (h : Nat) : lookup [] h = none := rfl

theorem lookup_cons (k : Nat) (t : TS) (ts : List (Nat × TS)) (h : Nat) :
    lookup ((k, t) :: ts) h = if k = h then some t else lookup ts h := by
  by_cases hk : k = h <;> simp [lookup, hk]

theorem lookup_filter (ts : List (Nat × TS)) (k h : Nat) :
    lookup (ts.filter (·.1 != k)) h = if k = h then none else lookup ts h := by
  unfold lookup
  rw [List.find?_filter]
  split
  · next e => rw [List.find?_eq_none.2 (by simp [e])]; rfl
  · next e => congr 2; funext a; by_cases ha : a.1 = h <;> simp [ha, Ne.symm e]

theorem lookup_eq_none {ts : List (Nat × TS)} {h : Nat} :
    lookup ts h = none ↔ ∀ p ∈ ts, p.1 ≠ h := by
  simp only [lookup, Option.map_eq_none_iff, List.find?_eq_none, beq_iff_eq]

theorem filter_of_lookup_none {ts : List (Nat × TS)} {h : Nat} (hn : lookup ts h = none) :
    ts.filter (·.1 != h) = ts := by
  rw [List.filter_eq_self]
  intro p hp
  have := lookup_eq_none.1 hn p hp
  simp [this]

theorem lookup_of_mem {ts : List (Nat × TS)} (hn : (ts.map (·.1)).Nodup) {p : Nat × TS} (hp : p ∈ ts) :
    lookup ts p.1 = some p.2 := by
  induction ts with
  | nil => cases hp
  | cons q ts ih =>
    obtain ⟨a, t⟩ := q
    rw [List.map_cons, List.nodup_cons] at hn
    rw [lookup_cons]
    rcases List.mem_cons.1 hp with rfl | hp'
    · simp
    · have : ¬ a = p.1 := by
        intro e; apply hn.1; rw [e]; exact List.mem_map.2 ⟨p, hp', rfl⟩
      simp only [this, if_false]
      exact ih hn.2 hp'

theorem lookup_added_append (L : List Nat) (ts : List (Nat × TS)) (h : Nat) :
    lookup (L.map (fun k => (k, TS.added)) ++ ts) h = if h ∈ L then some .added else lookup ts h := by
  induction L with
  | nil => simp
  | cons a L ih =>
    rw [List.map_cons, List.cons_append, lookup_cons, ih]
    by_cases hah : a = h
    · simp [hah]
    · have : ¬ h = a := fun e => hah e.symm
      simp [hah, this]

theorem task_setTask (s : St) (h : Nat) (t : TS) (k : Nat) :
    task (setTask s h t) k = if h = k then some t else task s k := by
  simp only [task_def, setTask, lookup_cons, lookup_filter]
  split <;> rfl

theorem task_delTask (s : St) (h k : Nat) :
    task (delTask s h) k = if h = k then none else task s k :=
  lookup_filter s.tasks h k

theorem task_congr {s s' : St} (h : s'.tasks = s.tasks) (k : Nat) : task s' k = task s k := by
  simp only [task_def, h]

theorem task_of_tasks_filter {s s' : St} {h : Nat} (e : s'.tasks = s.tasks.filter (·.1 != h)) (k : Nat) :
    task s' k = if h = k then none else task s k :=
  (task_congr (s := delTask s h) e k).trans (task_delTask s h k)

theorem task_of_tasks_set {s s' : St} {h : Nat} {t : TS}
    (e : s'.tasks = (h, t) :: s.tasks.filter (·.1 != h)) (k : Nat) :
    task s' k = if h = k then some t else task s k :=
  (task_congr (s := setTask s h t) e k).trans (task_setTask s h t k)

theorem tracked_congr {s s' : St} (h1 : s'.log = s.log) (h2 : s'.tasks = s.tasks)
    (h3 : s'.failed = s.failed) (k : Nat) : tracked s' k ↔ tracked s k := by
  simp only [tracked, h1, task_congr h2, h3]

theorem tracked_setTask {s : St} (h : Nat) (t : TS) {k : Nat} : tracked s k → tracked (setTask s h t) k := by
  refine Or.imp_right (Or.imp_left fun hk => ?_)
  rw [task_setTask]
  split
  · exact nofun
  · exact hk

theorem split_at {α : Type} {l : List α} {i : Nat} {w : α} (h : l[i]? = some w) :
    ∃ l1 l2, l = l1 ++ w :: l2 ∧ l1.length = i ∧ removeAt l i = l1 ++ l2 ∧
      ∀ w2, l.set i w2 = l1 ++ w2 :: l2 := by
  obtain ⟨hi, rfl⟩ := List.getElem?_eq_some_iff.1 h
  refine ⟨l.take i, l.drop (i+1), ?_, List.length_take_of_le (Nat.le_of_lt hi), rfl, fun w2 => ?_⟩
  · rw [List.getElem_cons_drop, List.take_append_drop]
  · rw [List.set_eq_take_append_cons_drop, if_pos hi]

theorem isIdle_congr {s s' : St} (h1 : s'.inProgress = s.inProgress) (h2 : s'.queue = s.queue)
    (h3 : s'.tasks = s.tasks) : isIdle s' = isIdle s := by
  simp only [isIdle, h1, h2, h3]

theorem isIdle_false_of_task {s : St} {h : Nat} {t : TS} (ht : task s h = some t) (hne : t ≠ .fetched) :
    isIdle s = false := by
  obtain ⟨p, hf, rfl⟩ := Option.map_eq_some_iff.1 ht
  unfold isIdle
  split
  · rfl
  · exact Bool.eq_false_iff.2 fun hall =>
      hne (by simpa using List.all_eq_true.1 hall p (List.mem_of_find?_eq_some hf))

theorem isIdle_true_of {s : St} (hn : (s.tasks.map (·.1)).Nodup) (h0 : s.inProgress = 0)
    (hall : ∀ h t, task s h = some t → t = .fetched) : isIdle s = true := by
  unfold isIdle
  simp only [h0, Nat.lt_irrefl, decide_false, Bool.false_and, Bool.false_eq_true, ↓reduceIte]
  rw [List.all_eq_true]
  intro p hp
  have := hall p.1 p.2 (lookup_of_mem hn hp)
  simp [this]

theorem flush_cases (s : St) : flush s = s ∨ (isIdle s = true ∧ s.buffer ≠ [] ∧
    flush s = { s with pending := s.pending ++ [s.buffer], buffer := [] }) := by
  unfold flush
  by_cases h : (isIdle s && !s.buffer.isEmpty) = true
  · right
    simp only [h, if_true]
    simp only [Bool.and_eq_true, Bool.not_eq_true', List.isEmpty_eq_false_iff] at h
    exact ⟨h.1, h.2, trivial⟩
  · left; simp only [h]; rfl

@[simp] theorem flush_log (s : St) : (flush s).log = s.log := by
  rcases flush_cases s with h | ⟨_, _, h⟩ <;> rw [h]
@[simp] theorem flush_tasks (s : St) : (flush s).tasks = s.tasks := by
  rcases flush_cases s with h | ⟨_, _, h⟩ <;> rw [h]
@[simp] theorem flush_queue (s : St) : (flush s).queue = s.queue := by
  rcases flush_cases s with h | ⟨_, _, h⟩ <;> rw [h]
@[simp] theorem flush_failed (s : St) : (flush s).failed = s.failed := by
  rcases flush_cases s with h | ⟨_, _, h⟩ <;> rw [h]
@[simp] theorem flush_sem (s : St) : (flush s).sem = s.sem := by
  rcases flush_cases s with h | ⟨_, _, h⟩ <;> rw [h]
@[simp] theorem flush_inProgress (s : St) : (flush s).inProgress = s.inProgress := by
  rcases flush_cases s with h | ⟨_, _, h⟩ <;> rw [h]
@[simp] theorem flush_workers (s : St) : (flush s).workers = s.workers := by
  rcases flush_cases s with h | ⟨_, _, h⟩ <;> rw [h]
@[simp] theorem flush_cancelled (s : St) : (flush s).cancelled = s.cancelled := by
  rcases flush_cases s with h | ⟨_, _, h⟩ <;> rw [h]
@[simp] theorem task_flush (s : St) (h : Nat) : task (flush s) h = task s h := by
  simp only [task_def, flush_tasks]
@[simp] theorem isIdle_flush (s : St) : isIdle (flush s) = isIdle s :=
  isIdle_congr (flush_inProgress s) (flush_queue s) (flush_tasks s)

theorem inBP_flush (s : St) (h : Nat) : inBP (flush s) h ↔ inBP s h := by
  rcases flush_cases s with e | ⟨_, _, e⟩
  · rw [e]
  · rw [e]; unfold inBP
    simp only [List.mem_append, List.mem_singleton, List.not_mem_nil, false_or]
    constructor
    · rintro ⟨b, hb | rfl, hh⟩
      · exact Or.inr ⟨b, hb, hh⟩
      · exact Or.inl hh
    · rintro (hh | ⟨b, hb, hh⟩)
      · exact ⟨_, Or.inr rfl, hh⟩
      · exact ⟨b, Or.inl hb, hh⟩

theorem tracked_flush (s : St) (h : Nat) : tracked (flush s) h ↔ tracked s h := by
  simp only [tracked, flush_log, task_flush, flush_failed]

theorem flush_buffer_nodup {s : St} (h : s.buffer.Nodup) : (flush s).buffer.Nodup := by
  rcases flush_cases s with e | ⟨_, _, e⟩ <;> rw [e]
  · exact h
  · exact List.nodup_nil

theorem flush_buf_idle (s : St) : (flush s).buffer ≠ [] → isIdle (flush s) = false := by
  rw [isIdle_flush]
  intro hb
  cases hi : isIdle s with
  | false => rfl
  | true =>
    exfalso; apply hb
    unfold flush
    simp only [hi, Bool.true_and]
    cases hbe : s.buffer <;> simp [hbe]

def donePre (s : St) (h : Nat) : St := { setTask s h .fetched with inProgress := s.inProgress - 1 }
def failPre (s : St) (h : Nat) : St :=
  { delTask s h with inProgress := s.inProgress - 1, failed := h :: s.failed }

-- `done s h` unfolds to `{ flush (donePre s h) with sem := (flush (donePre s h)).sem + 1 }`, `failedDone s h`
-- to the same at `failPre s h`: each fact below is the fact about `flush` there. `flush` itself stays
-- folded: a unifier that may unfold it evaluates `isIdle` at every projection of `flush _` it meets.
attribute [local irreducible] flush

theorem task_done (s : St) (h k : Nat) : task (done s h) k = if h = k then some .fetched else task s k :=
  (task_flush (donePre s h) k).trans (task_setTask s h .fetched k)

theorem task_failedDone (s : St) (h k : Nat) : task (failedDone s h) k = if h = k then none else task s k :=
  (task_flush (failPre s h) k).trans (task_delTask s h k)

@[simp] theorem done_log (s : St) (h : Nat) : (done s h).log = s.log := flush_log _
@[simp] theorem done_failed (s : St) (h : Nat) : (done s h).failed = s.failed := flush_failed _
@[simp] theorem done_workers (s : St) (h : Nat) : (done s h).workers = s.workers := flush_workers _
@[simp] theorem done_queue (s : St) (h : Nat) : (done s h).queue = s.queue := flush_queue _
@[simp] theorem done_cancelled (s : St) (h : Nat) : (done s h).cancelled = s.cancelled := flush_cancelled _
@[simp] theorem done_sem (s : St) (h : Nat) : (done s h).sem = s.sem + 1 :=
  congrArg (· + 1) (flush_sem _)
@[simp] theorem done_inProgress (s : St) (h : Nat) : (done s h).inProgress = s.inProgress - 1 :=
  flush_inProgress _
@[simp] theorem done_tasks (s : St) (h : Nat) : (done s h).tasks = (setTask s h .fetched).tasks :=
  flush_tasks _

theorem tracked_done {s : St} (h : Nat) {k : Nat} (hk : tracked s k) : tracked (done s h) k :=
  (tracked_congr (s := setTask s h .fetched) (done_log s h) (done_tasks s h) (done_failed s h) k).2
    (tracked_setTask h .fetched hk)

@[simp] theorem failedDone_log (s : St) (h : Nat) : (failedDone s h).log = s.log := flush_log _
@[simp] theorem failedDone_failed (s : St) (h : Nat) : (failedDone s h).failed = h :: s.failed :=
  flush_failed _
@[simp] theorem failedDone_workers (s : St) (h : Nat) : (failedDone s h).workers = s.workers :=
  flush_workers _
@[simp] theorem failedDone_queue (s : St) (h : Nat) : (failedDone s h).queue = s.queue :=
  flush_queue _
@[simp] theorem failedDone_cancelled (s : St) (h : Nat) : (failedDone s h).cancelled = s.cancelled :=
  flush_cancelled _
@[simp] theorem failedDone_sem (s : St) (h : Nat) : (failedDone s h).sem = s.sem + 1 :=
  congrArg (· + 1) (flush_sem _)
@[simp] theorem failedDone_inProgress (s : St) (h : Nat) : (failedDone s h).inProgress = s.inProgress - 1 :=
  flush_inProgress _
@[simp] theorem failedDone_tasks (s : St) (h : Nat) : (failedDone s h).tasks = (delTask s h).tasks :=
  flush_tasks _

theorem inBP_congr {s s' : St} (h1 : s'.buffer = s.buffer) (h2 : s'.pending = s.pending) (h : Nat) :
    inBP s' h ↔ inBP s h := by simp only [inBP, h1, h2]

theorem inBP_done (s : St) (h k : Nat) : inBP (done s h) k ↔ inBP s k :=
  inBP_flush (donePre s h) k

theorem inBP_failedDone (s : St) (h k : Nat) : inBP (failedDone s h) k ↔ inBP s k :=
  inBP_flush (failPre s h) k

theorem done_buffer_nodup {s : St} (h : Nat) (hb : s.buffer.Nodup) : (done s h).buffer.Nodup :=
  flush_buffer_nodup (s := donePre s h) hb

theorem failedDone_buffer_nodup {s : St} (h : Nat) (hb : s.buffer.Nodup) : (failedDone s h).buffer.Nodup :=
  flush_buffer_nodup (s := failPre s h) hb

theorem done_buf_idle (s : St) (h : Nat) : (done s h).buffer ≠ [] → isIdle (done s h) = false :=
  flush_buf_idle (donePre s h)

theorem failedDone_buf_idle (s : St) (h : Nat) :
    (failedDone s h).buffer ≠ [] → isIdle (failedDone s h) = false :=
  flush_buf_idle (failPre s h)

theorem mem_joinBatch {net : Nat → Info} {b log : List Nat} {h : Nat} :
    h ∈ joinBatch net log b ↔ h ∈ log ∨ (h ∈ b ∧ (net h).valid = true) := by
  induction b generalizing log with
  | nil => simp [joinBatch]
  | cons a b ih =>
    unfold joinBatch
    split <;> rename_i hc <;> rw [ih]
    · -- `a` is taken: it is valid
      have hv : (net a).valid = true := (Bool.and_eq_true _ _ ▸ hc).1
      by_cases e : h = a <;> simp [e, hv]
    · -- `a` is skipped: it is invalid or already in the log
      by_cases e : h = a
      · subst e
        by_cases hv : (net h).valid = true <;> simp_all
      · simp [e]

theorem joinBatch_nodup {net : Nat → Info} {b log : List Nat} (hn : log.Nodup) :
    (joinBatch net log b).Nodup := by
  induction b generalizing log with
  | nil => simpa [joinBatch] using hn
  | cons a b ih =>
    unfold joinBatch
    by_cases hc : ((net a).valid && !log.contains a) = true
    · rw [if_pos hc]
      apply ih
      simp only [Bool.and_eq_true, Bool.not_eq_true', List.contains_eq_mem, decide_eq_false_iff_not] at hc
      rw [List.nodup_append]
      refine ⟨hn, by simp, ?_⟩
      intro x hx y hy e
      rw [List.mem_singleton] at hy
      exact hc.2 (hy ▸ e ▸ hx)
    · rw [if_neg hc]; exact ih hn

end Orbit.Repl
