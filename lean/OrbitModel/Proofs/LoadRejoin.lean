import OrbitModel.Proofs.LoadHead
/-!
# `Load`'s second `Join(l, n)` is a trim   (C15, finding F30)

After the F30 repair `Load` joins the fetched log without a trim and then, when the listing is longer
than the limit, calls `Join(l, n)` again. `Model/Store.lean` models that second call as what is left
of it (`trim` + clock update). Here the exact form — `joinSize` called twice — is shown to be that, for
every log that satisfies the invariant of `Proofs/LogJoin.lean` (every log reachable by appends and
honest joins): the second join finds nothing new (the heads of `l` are held after the first), so the
entries stay, the invariant is kept, and the listing is the same.
-/
namespace Orbit

theorem difference_heads_held (A headsA : OMap) (L : Log)
    (h : ∀ e ∈ headsA, has L.entries e.hash = true) : difference A headsA L = [] := by
  refine List.eq_nil_iff_forall_not_mem.mpr fun x hx => ?_
  -- nothing is taken under a head, so nothing is taken at all
  have : ∀ {e}, Taken A L (headsA.map (·.hash)) e → False := fun ht => by
    induction ht with
    | head hh ht =>
      obtain ⟨y, hy, rfl⟩ := List.mem_map.mp hh
      exact Bool.noConfusion ((h y hy).symm.trans ht.2.1)
    | link _ _ _ ih => exact ih
  exact this ((mem_difference A headsA L x).mp hx)

/-- the exact form of one head of `Load(amount)` after the F30 repair: `Join(l, -1)`, then `Join(l, amount)`
when the listing is longer than `amount` -/
def loadHeadExact (acl : Acl) (fetch : Nat → OMap) (amount : Int) (L : Log) (h : Nat) : Except Err Log :=
  let l := logOfEntries L.id (fetch h)
  match joinSize acl.canAppend L l.entries l.heads l.id (-1) with
  | .ok L' =>
    if amount > -1 && (values L').length > amount then
      match joinSize acl.canAppend L' l.entries l.heads l.id amount with
      | .ok L'' => .ok L''
      | .error .panic => .error .panic
      | .error _ => .ok L'
    else .ok L'
  | .error .panic => .error .panic
  | .error _ => .ok L

/-- the modelling assumption of DESIGN §7, proved for every log satisfying the invariant: joining again a log
whose heads are held changes neither the entries nor what `Values()` lists, so `Join(l, amount)` is then the
trim of the listing to its last `amount` values -/
theorem rejoin_trim {U : List Entry} (hU : HashDet U) (hT : TieFree U) (hM : ClockMono U) {J : Log}
    {A hs : OMap} (hG : Good U J) (hA : Honest U A hs) (hid : ∀ e ∈ A, e.logId = J.id)
    (hheld : ∀ e ∈ hs, has J.entries e.hash = true) (ca : Entry → Bool) {amount : Int} (h0 : amount > -1)
    (hlt : (values J).length > amount) :
    ∃ T, joinSize ca J A hs J.id amount = .ok T ∧
      values T = (values J).drop ((values J).length - amount.toNat) := by
  have hdiff := difference_heads_held A hs J hheld
  have hI2 := inv_joinCore_honest hU J A hs J.id hG.inv hA hid
  have hnd2 := nodup_joinCore J A hs J.id hG.nodup
  have hv2 : values (joinCore J A hs J.id) = values J :=
    values_unique hU hT hM _ _ hI2 hnd2 hG.inv hG.nodup fun x => by
      rw [joinCore_eq _ _ _ _ rfl, hdiff]; exact Iff.rfl
  obtain ⟨T, ht⟩ := trim_ok (L := joinCore J A hs J.id) (size := amount.toNat)
    (by rw [hv2]; exact Int.toNat_le.mpr (Int.le_of_lt hlt))
  refine ⟨bumpClock T, by rw [joinSize_eq, hdiff, List.all_nil, if_pos rfl, if_pos h0, ht]; rfl, ?_⟩
  rw [values_bumpClock, (trim_spec hU hT hM hI2 hnd2 ht).2.1, hv2]

theorem loadHeadExact_is_loadHead {U : List Entry} (hU : HashDet U) (hT : TieFree U) (hM : ClockMono U)
    (acl : Acl) (fetch : Nat → OMap) (amount : Int) {L : Log} (h : Nat) (hG : Good U L)
    (hF : Fetched U L (fetch h)) :
    loadHeadExact acl fetch amount L h ≠ .error .panic ∧
    ∀ r, loadHeadExact acl fetch amount L h = .ok r →
      ∃ r', loadHead1 acl fetch amount L h = .ok r' ∧ values r = values r' := by
  have hA := fetched_honest hF
  have hlid := fetched_lid hF
  rw [loadHead1_eq]
  unfold loadHeadExact logOfEntries
  simp only [joinSize_neg_one, Bool.and_eq_true, decide_eq_true_eq]
  generalize ofList (fetch h) = m at *
  cases hj : join acl.canAppend L m (ofList (findHeads m)) L.id with
  | error e => rcases join_error hj with rfl | rfl <;> exact ⟨nofun, fun r hr => ⟨r, hr, rfl⟩⟩
  | ok J =>
    have hGJ := good_step hU hM hG (.join L J m _ L.id hA hlid hj)
    have hJid := join_id hj
    by_cases hc : amount > -1 ∧ (values J).length > amount
    · -- the second join, on the log the first one produced: every head of the fetched log is held
      obtain ⟨T, hT2, hvT⟩ := rejoin_trim hU hT hM hGJ hA (fun e he => (hlid e he).trans hJid.symm)
        (fun e he => has_of_mem (join_heads_mem hU hG.inv hA hlid hj e he)) acl.canAppend hc.1 hc.2
      obtain ⟨L', hL', _, hvL'⟩ := cut_values hU hT hM hGJ.inv hGJ.nodup amount
      simp only [if_pos hc, ← hJid, hT2, hL']
      exact ⟨nofun, fun r hr => ⟨L', rfl, by cases hr; rw [hvT, hvL', if_pos hc.1]⟩⟩
    · simp only [if_neg hc, cut]
      exact ⟨nofun, fun r hr => ⟨r, hr, rfl⟩⟩

end Orbit
