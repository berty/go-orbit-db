import OrbitModel.Proofs.EntryOrder
import OrbitModel.Proofs.LogJoin
/-!
# `append` preserves the heads invariant; the Lamport clock dominates every entry
-/
namespace Orbit

theorem mem_sortedHeads {L : Log} {e : Entry} : e ∈ sortedHeads L ↔ e ∈ L.heads :=
  Trav.mem_sortDesc _ _ _

theorem mem_appendNext (L : Log) (h : Nat) : h ∈ appendNext L ↔ ∃ x ∈ L.heads, x.hash = h := by
  simp only [appendNext, List.mem_reverse, List.mem_map, mem_sortedHeads]

theorem append_eq (canAppend : Entry → Bool) (L : Log) (mk : Nat → List Nat → Entry) :
    (append canAppend L mk).1 =
      if canAppend (mk (appendTime L) (appendNext L)) then
        { L with clock := appendTime L,
                 entries := set L.entries (mk (appendTime L) (appendNext L)),
                 nextIdx := L.nextIdx ++ (mk (appendTime L) (appendNext L)).next,
                 heads := [mk (appendTime L) (appendNext L)] }
      else { L with clock := appendTime L } := by
  unfold append
  simp only
  split <;> rfl

theorem append_id (ca : Entry → Bool) (L : Log) (mk : Nat → List Nat → Entry) :
    (append ca L mk).1.id = L.id := by
  rw [append_eq]; split <;> rfl

theorem append_snd (canAppend : Entry → Bool) (L : Log) (mk : Nat → List Nat → Entry) :
    (append canAppend L mk).2 =
      if canAppend (mk (appendTime L) (appendNext L)) then .ok (mk (appendTime L) (appendNext L))
      else .error .denied := by
  unfold append
  simp only
  split <;> rfl

theorem append_denied {ca : Entry → Bool} {L : Log} {mk : Nat → List Nat → Entry}
    (hcan : ca (mk (appendTime L) (appendNext L)) = false) :
    append ca L mk = ({ L with clock := appendTime L }, .error .denied) :=
  Prod.ext (by rw [append_eq, hcan]; rfl) (by rw [append_snd, hcan]; rfl)

/-- `inv_append_clock` discharges `hunref` (by `ClockMono`) and `hself` (by `hnext`, `hfresh`) -/
theorem inv_append {U : List Entry} (canAppend : Entry → Bool) (L : Log) (mk : Nat → List Nat → Entry)
    (hI : Inv U L)
    (hnext : (mk (appendTime L) (appendNext L)).next = appendNext L)
    (hmem : mk (appendTime L) (appendNext L) ∈ U)
    (hfresh : has L.entries (mk (appendTime L) (appendNext L)).hash = false)
    (hunref : (mk (appendTime L) (appendNext L)).hash ∉ nexts L.entries)
    (hself : (mk (appendTime L) (appendNext L)).hash ∉ (mk (appendTime L) (appendNext L)).next) :
    Inv U (append canAppend L mk).1 := by
  rw [append_eq]
  generalize mk (appendTime L) (appendNext L) = e at *
  split
  · have hset : set L.entries e = L.entries ++ [e] := by unfold set; simp [hfresh]
    have hnx : nexts (L.entries ++ [e]) = nexts L.entries ++ e.next := by
      rw [nexts_append]; simp [nexts]
    simp only [hset]
    refine ⟨fun x hx => ?_, fun x => ?_, fun h => by simp only [hnx, List.mem_append, hI.nidx], by simp⟩
    · exact (List.mem_append.mp hx).elim (hI.sub x) fun hx => List.mem_singleton.mp hx ▸ hmem
    · simp only [hnx, List.mem_append, List.mem_singleton, not_or]
      constructor
      · rintro rfl
        exact ⟨.inr rfl, hunref, hself⟩
      · -- an old entry that nothing old links to was a head, and the new entry links to every head
        rintro ⟨hx | hx, hn1, hn2⟩
        · exact (hn2 (hnext ▸ (mem_appendNext L _).mpr ⟨x, (hI.heads x).mpr ⟨hx, hn1⟩, rfl⟩)).elim
        · exact hx
  · exact inv_clock hI _

theorem nodup_append (canAppend : Entry → Bool) (L : Log) (mk : Nat → List Nat → Entry)
    (h : L.entries.Nodup) : (append canAppend L mk).1.entries.Nodup := by
  rw [append_eq]
  split
  · exact nodup_set _ h
  · exact h

theorem append_entries (canAppend : Entry → Bool) (L : Log) (mk : Nat → List Nat → Entry) (x : Entry) :
    x ∈ (append canAppend L mk).1.entries ↔
      x ∈ L.entries ∨ (x = mk (appendTime L) (appendNext L) ∧ canAppend x = true ∧
        has L.entries x.hash = false) := by
  rw [append_eq]
  split
  · rename_i hc
    simp only [mem_set]
    constructor
    · rintro (h | ⟨rfl, h⟩)
      · exact Or.inl h
      · exact Or.inr ⟨rfl, hc, h⟩
    · rintro (h | ⟨rfl, _, h⟩)
      · exact Or.inl h
      · exact Or.inr ⟨rfl, h⟩
  · rename_i hc
    constructor
    · exact Or.inl
    · rintro (h | ⟨rfl, h, _⟩)
      · exact h
      · exact absurd h hc

def ClockInv (L : Log) : Prop := ∀ e ∈ L.entries, e.time ≤ L.clock

theorem clockInv_empty (id : Nat) : ClockInv (Log.empty id) := by
  intro e he; simp [Log.empty] at he

theorem le_foldl_max_init (l : List Entry) (m : Nat) : m ≤ l.foldl (fun m e => max m e.time) m := by
  induction l generalizing m with
  | nil => exact Nat.le_refl _
  | cons a as ih => exact Nat.le_trans (Nat.le_max_left _ _) (ih (max m a.time))

theorem le_foldl_max (l : List Entry) (m : Nat) : ∀ h ∈ l, h.time ≤ l.foldl (fun m e => max m e.time) m := by
  induction l generalizing m with
  | nil => intro h hh; simp at hh
  | cons a as ih =>
    intro h hh
    rcases List.mem_cons.mp hh with rfl | hh
    · exact Nat.le_trans (Nat.le_max_right _ _) (le_foldl_max_init as (max m h.time))
    · exact ih (max m a.time) h hh

theorem time_le_head {U : List Entry} (hM : ClockMono U) {L : Log} (hI : Inv U L) :
    ∀ x ∈ L.entries, ∃ h ∈ L.heads, x.time ≤ h.time := by
  refine Trav.above_induction Entry.lt_irrefl Entry.lt_trans _ fun x hx ih => ?_
  by_cases hr : x.hash ∈ nexts L.entries
  · obtain ⟨p, hp, hn⟩ := (mem_nexts _ _).mp hr
    have hlt := hM p (hI.sub p hp) x (hI.sub x hx) hn
    obtain ⟨h, hh, hle⟩ := ih p hp hlt
    exact ⟨h, hh, Nat.le_trans (Entry.lt_time_le hlt) hle⟩
  · exact ⟨x, (hI.heads x).mpr ⟨hx, hr⟩, Nat.le_refl _⟩

theorem clock_lt_appendTime (L : Log) : L.clock < appendTime L :=
  Nat.lt_succ_of_le (Nat.le_max_left _ _)

theorem append_time_gt_heads (L : Log) : ∀ x ∈ L.heads, x.time < appendTime L := fun x hx =>
  Nat.lt_succ_of_le (Nat.le_trans (le_foldl_max L.heads 0 x hx) (Nat.le_max_right _ _))

theorem append_time_gt {U : List Entry} (hM : ClockMono U) {L : Log} (hI : Inv U L) :
    ∀ x ∈ L.entries, x.time < appendTime L := fun x hx =>
  let ⟨h, hh, hle⟩ := time_le_head hM hI x hx
  Nat.lt_of_le_of_lt hle (append_time_gt_heads L h hh)

theorem clockInv_append (canAppend : Entry → Bool) (L : Log) (mk : Nat → List Nat → Entry)
    (hC : ClockInv L) (htime : (mk (appendTime L) (appendNext L)).time = appendTime L) :
    ClockInv (append canAppend L mk).1 := by
  rw [append_eq]
  have hlt := clock_lt_appendTime L
  split
  · intro x hx
    simp only [mem_set] at hx
    show x.time ≤ appendTime L
    rcases hx with hx | ⟨rfl, _⟩
    · exact Nat.le_trans (hC x hx) (Nat.le_of_lt hlt)
    · exact Nat.le_of_eq htime
  · intro x hx
    exact Nat.le_trans (hC x hx) (Nat.le_of_lt hlt)

theorem clockInv_bumpClock {U : List Entry} (hM : ClockMono U) {L : Log} (hI : Inv U L) :
    ClockInv (bumpClock L) := by
  intro x hx
  obtain ⟨h, hh, hle⟩ := time_le_head hM hI x hx
  exact Nat.le_trans hle (Nat.le_trans (le_foldl_max L.heads 0 h hh) (Nat.le_max_right _ _))

theorem clockInv_join {U : List Entry} (hU : HashDet U) (hM : ClockMono U) {canAppend : Entry → Bool}
    {L L' : Log} {A headsA : OMap} {Aid : Nat} (hI : Inv U L) (hC : ClockInv L)
    (hA : Honest U A headsA) (hid : ∀ e ∈ A, e.logId = L.id)
    (h : join canAppend L A headsA Aid = .ok L') : ClockInv L' := by
  rcases join_ok_cases h with ⟨_, rfl⟩ | ⟨_, _, rfl⟩
  · exact hC
  · exact clockInv_bumpClock hM (inv_joinCore_honest hU L A headsA Aid hI hA hid)

theorem fresh_not_in_appendNext {U : List Entry} {L : Log} (hI : Inv U L) {h : Nat}
    (hfresh : has L.entries h = false) : h ∉ appendNext L := by
  intro hm
  obtain ⟨x, hx, hxh⟩ := (mem_appendNext L h).mp hm
  exact (has_false_iff L.entries h).mp hfresh x (hI.heads_sub x hx) hxh

theorem fresh_unreferenced {U : List Entry} (hM : ClockMono U) {L : Log} (hI : Inv U L)
    {e : Entry} (he : e ∈ U) (htime : e.time = appendTime L) :
    e.hash ∉ nexts L.entries := by
  intro hm
  obtain ⟨p, hp, hn⟩ := (mem_nexts _ _).mp hm
  have h1 := Entry.lt_time_le (hM p (hI.sub p hp) e he hn)
  have h2 := append_time_gt hM hI p hp
  omega

theorem inv_append_clock {U : List Entry} (hM : ClockMono U) (canAppend : Entry → Bool) (L : Log)
    (mk : Nat → List Nat → Entry) (hI : Inv U L)
    (hmem : mk (appendTime L) (appendNext L) ∈ U)
    (hnext : (mk (appendTime L) (appendNext L)).next = appendNext L)
    (htime : (mk (appendTime L) (appendNext L)).time = appendTime L)
    (hfresh : has L.entries (mk (appendTime L) (appendNext L)).hash = false) :
    Inv U (append canAppend L mk).1 :=
  inv_append canAppend L mk hI hnext hmem hfresh (fresh_unreferenced hM hI hmem htime)
    (by rw [hnext]; exact fresh_not_in_appendNext hI hfresh)

end Orbit
