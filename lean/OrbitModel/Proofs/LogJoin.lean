import OrbitModel.Proofs.LogDiff
/-!
# `joinCore` / `join` preserve the heads invariant

`Inv U L`: entries are drawn from the universe `U`, the heads are exactly the unreferenced members,
the `Next` index is exactly the set of referenced hashes, and the heads map has no duplicates.
-/
namespace Orbit

structure Inv (U : List Entry) (L : Log) : Prop where
  sub    : ∀ e ∈ L.entries, e ∈ U
  heads  : ∀ e, e ∈ L.heads ↔ (e ∈ L.entries ∧ e.hash ∉ nexts L.entries)
  nidx   : ∀ h, h ∈ L.nextIdx ↔ h ∈ nexts L.entries
  /-- needed for the traversal: roots without duplicates (`Trav.ShapeOn.rnodup`) -/
  hnodup : L.heads.Nodup

/-- an incoming log as the replicator builds it: entries of the universe, heads among the entries; nothing about ids,
signatures or closure (the lemmas named `…_honest` assume besides that every entry carries `L.id`) -/
structure Honest (U : List Entry) (A heads : OMap) : Prop where
  sub   : ∀ e ∈ A, e ∈ U
  hsub  : ∀ e ∈ heads, e ∈ A

theorem Inv.heads_sub {U : List Entry} {L : Log} (h : Inv U L) : ∀ e ∈ L.heads, e ∈ L.entries :=
  fun e he => ((h.heads e).mp he).1

theorem inv_empty (U : List Entry) (id : Nat) : Inv U (Log.empty id) :=
  ⟨by simp [Log.empty], by simp [Log.empty], by simp [Log.empty, nexts], by simp [Log.empty]⟩

theorem joinCore_eq (L : Log) (A headsA : OMap) (Aid : Nat) (h : Aid = L.id) :
    joinCore L A headsA Aid =
      { L with
        entries := merge L.entries (difference A headsA L),
        heads := (findHeads (merge L.heads headsA)).filter (fun e =>
          !(nexts (difference A headsA L)).contains e.hash &&
          !(L.nextIdx ++ nexts (difference A headsA L)).contains e.hash),
        nextIdx := L.nextIdx ++ nexts (difference A headsA L) } := by
  unfold joinCore
  simp [h]

theorem joinCore_ne (L : Log) (A headsA : OMap) (Aid : Nat) (h : Aid ≠ L.id) :
    joinCore L A headsA Aid = L := by
  unfold joinCore
  simp [h]

theorem inv_joinCore {U : List Entry} (hU : HashDet U) (L : Log) (A headsA : OMap) (Aid : Nat)
    (hI : Inv U L) (hA : Honest U A headsA)
    -- fails for an incoming head of a foreign log id (finding F4, `C04.pinned_foreign_entry_becomes_head`)
    (hcomplete : ∀ e ∈ headsA, e ∈ L.entries ∨ e ∈ difference A headsA L) :
    Inv U (joinCore L A headsA Aid) := by
  by_cases hid : Aid = L.id
  case neg => rw [joinCore_ne L A headsA Aid hid]; exact hI
  rw [joinCore_eq L A headsA Aid hid]
  have hitem := difference_item A headsA L
  have hwhy := difference_why A headsA L
  generalize difference A headsA L = N at hitem hwhy hcomplete
  have hNU : ∀ e ∈ N, e ∈ U := fun e he => hA.sub e (hitem e he).1
  have hHU : ∀ e ∈ headsA, e ∈ U := fun e he => hA.sub e (hA.hsub e he)
  have hLhU : ∀ e ∈ L.heads, e ∈ U := fun e he => hI.sub e (hI.heads_sub e he)
  have hmemE : ∀ e, e ∈ merge L.entries N ↔ e ∈ L.entries ∨ e ∈ N :=
    mem_merge_iff hU _ _ hI.sub hNU
  have hnx : ∀ h, h ∈ nexts (merge L.entries N) ↔ h ∈ nexts L.entries ∨ h ∈ nexts N := fun h => by
    simp only [mem_nexts, hmemE, or_and_right, exists_or]
  have hmemH : ∀ e, e ∈ merge L.heads headsA ↔ e ∈ L.heads ∨ e ∈ headsA :=
    mem_merge_iff hU _ _ hLhU hHU
  refine ⟨fun e he => ((hmemE e).mp he).elim (hI.sub e) (hNU e), fun e => ?_,
    fun h => by simp only [List.mem_append, hnx, hI.nidx],
    ((nodup_merge headsA hI.hnodup).filter _).filter _⟩
  simp only [List.mem_filter, mem_findHeads, Bool.and_eq_true, Bool.not_eq_true',
    List.contains_eq_mem, decide_eq_false_iff_not, List.mem_append, not_or, hmemH, hmemE, hnx, hI.nidx]
  constructor
  · rintro ⟨⟨hmem, _⟩, hnN, hnL, _⟩
    refine ⟨?_, hnL, hnN⟩
    rcases hmem with hmem | hmem
    · exact Or.inl (hI.heads_sub e hmem)
    · exact hcomplete e hmem
  · rintro ⟨hmem, hnL, hnN⟩
    refine ⟨⟨?_, ?_⟩, hnN, hnL, hnN⟩
    · rcases hmem with hmem | hmem
      · exact Or.inl ((hI.heads e).mpr ⟨hmem, hnL⟩)
      · rcases hwhy e hmem with hinit | ⟨e', he', hn⟩
        · simp only [List.mem_map] at hinit
          obtain ⟨x, hx, hxh⟩ := hinit
          have : x = e := hU x (hHU x hx) e (hNU e hmem) hxh
          exact Or.inr (this ▸ hx)
        · exact absurd ((mem_nexts N e.hash).mpr ⟨e', he', hn⟩) hnN
    · -- unreferenced inside heads ∪ headsA because unreferenced in all entries
      simp only [mem_nexts, hmemH]
      rintro ⟨x, hx, hn⟩
      rcases hx with hx | hx
      · exact hnL ((mem_nexts _ _).mpr ⟨x, hI.heads_sub x hx, hn⟩)
      · rcases hcomplete x hx with hx' | hx'
        · exact hnL ((mem_nexts _ _).mpr ⟨x, hx', hn⟩)
        · exact hnN ((mem_nexts _ _).mpr ⟨x, hx', hn⟩)

theorem heads_complete {U : List Entry} (hU : HashDet U) (L : Log) (A headsA : OMap)
    (hA : Honest U A headsA) (hLU : ∀ e ∈ L.entries, e ∈ U) (hid : ∀ e ∈ A, e.logId = L.id) :
    ∀ e ∈ headsA, e ∈ L.entries ∨ e ∈ difference A headsA L := by
  intro e he
  have heA := hA.hsub e he
  cases hheld : has L.entries e.hash
  · exact .inr ((mem_difference A headsA L e).mpr (.head (List.mem_map.mpr ⟨e, he, rfl⟩)
      ⟨get_of_mem hU hA.sub heA, hheld, hid e heA⟩))
  · exact .inl (mem_of_has hU hLU (hA.sub e heA) hheld)

theorem inv_joinCore_honest {U : List Entry} (hU : HashDet U) (L : Log) (A headsA : OMap) (Aid : Nat)
    (hI : Inv U L) (hA : Honest U A headsA) (hid : ∀ e ∈ A, e.logId = L.id) :
    Inv U (joinCore L A headsA Aid) :=
  inv_joinCore hU L A headsA Aid hI hA (heads_complete hU L A headsA hA hI.sub hid)

theorem inv_clock {U : List Entry} {L : Log} (h : Inv U L) (t : Nat) : Inv U { L with clock := t } :=
  ⟨h.sub, h.heads, h.nidx, h.hnodup⟩

theorem join_eq (ca : Entry → Bool) (L : Log) (A hs : OMap) :
    join ca L A hs L.id =
      if (difference A hs L).all (acceptable ca) then .ok (bumpClock (joinCore L A hs L.id))
      else if (difference A hs L).all ca then .error .sigFail else .error .denied := by
  simp only [join, joinChecked, bne_self_eq_false, Bool.false_eq_true, if_false]
  cases (difference A hs L).all (acceptable ca) <;> cases (difference A hs L).all ca <;> rfl

theorem join_error {ca : Entry → Bool} {L : Log} {A hs : OMap} {e : Err}
    (h : join ca L A hs L.id = .error e) : e = .sigFail ∨ e = .denied := by
  rw [join_eq] at h
  split at h
  · cases h
  · split at h <;> cases h <;> simp

theorem join_ok_of_acceptable {ca : Entry → Bool} (L : Log) (A hs : OMap)
    (h : ∀ x ∈ difference A hs L, acceptable ca x = true) :
    join ca L A hs L.id = .ok (bumpClock (joinCore L A hs L.id)) := by
  rw [join_eq, if_pos (List.all_eq_true.mpr h)]

theorem join_ok_cases {canAppend : Entry → Bool} {L L' : Log} {A headsA : OMap} {Aid : Nat}
    (h : join canAppend L A headsA Aid = .ok L') :
    (Aid ≠ L.id ∧ L' = L) ∨
    (Aid = L.id ∧ (difference A headsA L).all (acceptable canAppend) = true ∧
      L' = bumpClock (joinCore L A headsA Aid)) := by
  by_cases hid : Aid = L.id
  · subst hid
    rw [join_eq] at h
    split at h
    · injection h with h; exact Or.inr ⟨rfl, ‹_›, h.symm⟩
    · split at h <;> cases h
  · have : (Aid != L.id) = true := by simpa using hid
    simp only [join, this, if_true] at h
    injection h with h
    exact Or.inl ⟨hid, h.symm⟩

theorem join_id {canAppend : Entry → Bool} {L L' : Log} {A headsA : OMap} {Aid : Nat}
    (h : join canAppend L A headsA Aid = .ok L') : L'.id = L.id := by
  rcases join_ok_cases h with ⟨_, rfl⟩ | ⟨hid, _, rfl⟩
  · rfl
  · rw [joinCore_eq L A headsA Aid hid]; rfl

/-- `hid` is what the replicator guarantees after the `fix:` commit of F4. -/
theorem inv_join_honest {U : List Entry} (hU : HashDet U) {canAppend : Entry → Bool} {L L' : Log}
    {A headsA : OMap} {Aid : Nat} (hI : Inv U L) (hA : Honest U A headsA)
    (hid : ∀ e ∈ A, e.logId = L.id) (h : join canAppend L A headsA Aid = .ok L') : Inv U L' := by
  rcases join_ok_cases h with ⟨_, rfl⟩ | ⟨_, _, rfl⟩
  · exact hI
  · exact inv_clock (inv_joinCore_honest hU L A headsA Aid hI hA hid) _

theorem join_entries {U : List Entry} (hU : HashDet U) {canAppend : Entry → Bool} {L L' : Log}
    {A headsA : OMap} {Aid : Nat} (hI : Inv U L) (hA : Honest U A headsA) (hAid : Aid = L.id)
    (h : join canAppend L A headsA Aid = .ok L') :
    ∀ e, e ∈ L'.entries ↔ e ∈ L.entries ∨ e ∈ difference A headsA L := by
  rcases join_ok_cases h with ⟨hne, _⟩ | ⟨_, _, rfl⟩
  · exact absurd hAid hne
  · intro e
    rw [joinCore_eq L A headsA Aid hAid]
    exact mem_merge_iff hU _ _ hI.sub (fun x hx => hA.sub x (difference_item A headsA L x hx).1) e

theorem join_mono {canAppend : Entry → Bool} {L L' : Log} {A headsA : OMap} {Aid : Nat}
    (h : join canAppend L A headsA Aid = .ok L') : ∀ e ∈ L.entries, e ∈ L'.entries := by
  rcases join_ok_cases h with ⟨_, rfl⟩ | ⟨hid, _, rfl⟩
  · exact fun e he => he
  · intro e he
    rw [joinCore_eq L A headsA Aid hid]
    exact mem_merge_of_left _ _ e he

theorem join_new_acceptable {canAppend : Entry → Bool} {L L' : Log} {A headsA : OMap} {Aid : Nat}
    (h : join canAppend L A headsA Aid = .ok L') :
    ∀ e ∈ L'.entries, e ∈ L.entries ∨
      (canAppend e = true ∧ e.sigOk = true ∧ e.logId = L.id ∧ e ∈ A) := by
  rcases join_ok_cases h with ⟨_, rfl⟩ | ⟨hid, hall, rfl⟩
  · exact fun e he => Or.inl he
  · intro e he
    rw [joinCore_eq L A headsA Aid hid] at he
    rcases mem_or_mem_of_mem_merge _ _ e he with he | he
    · exact Or.inl he
    · right
      have hacc := List.all_eq_true.mp hall e he
      simp only [acceptable, Bool.and_eq_true] at hacc
      have := difference_item A headsA L e he
      exact ⟨hacc.1, hacc.2, this.2.2, this.1⟩

theorem nodup_joinCore (L : Log) (A headsA : OMap) (Aid : Nat) (h : L.entries.Nodup) :
    (joinCore L A headsA Aid).entries.Nodup := by
  by_cases hid : Aid = L.id
  · rw [joinCore_eq L A headsA Aid hid]; exact nodup_merge _ h
  · rw [joinCore_ne L A headsA Aid hid]; exact h

theorem nodup_join {canAppend : Entry → Bool} {L L' : Log} {A headsA : OMap} {Aid : Nat}
    (hnd : L.entries.Nodup) (h : join canAppend L A headsA Aid = .ok L') : L'.entries.Nodup := by
  rcases join_ok_cases h with ⟨_, rfl⟩ | ⟨_, _, rfl⟩
  · exact hnd
  · exact nodup_joinCore L A headsA Aid hnd

end Orbit
