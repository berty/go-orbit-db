import OrbitModel.Proofs.LogReach
/-!
# The heads of a log cover it: every entry is reachable from some head through `next`   (C05)

`Desc L h x`: a path of `next` links from `h` to `x` whose nodes are all members of `L`; `CoveredBy L hs`: every
entry is at the end of such a path from one of `hs`. The heads of a log cover it, and so does the one entry a
successful `append` adds: these are the values the store puts under `_remoteHeads` and `_localHeads`.
-/
namespace Orbit

inductive Desc (L : Log) : Nat → Nat → Prop
  | refl {e : Entry} (he : e ∈ L.entries) : Desc L e.hash e.hash
  | step {p c : Entry} {x : Nat} (hp : p ∈ L.entries) (hc : c ∈ L.entries) (hn : c.hash ∈ p.next)
      (h : Desc L c.hash x) : Desc L p.hash x

def CoveredBy (L : Log) (hs : List Nat) : Prop := ∀ x ∈ L.entries, ∃ h ∈ hs, Desc L h x.hash

/-- no holes: the log holds every entry its entries link to -/
def Closed (L : Log) : Prop := ∀ e ∈ L.entries, ∀ n ∈ e.next, has L.entries n = true

theorem Desc.mono {L L' : Log} (hsub : ∀ e ∈ L.entries, e ∈ L'.entries) {h x : Nat}
    (d : Desc L h x) : Desc L' h x := by
  induction d with
  | refl he => exact .refl (hsub _ he)
  | step hp hc hn _ ih => exact .step (hsub _ hp) (hsub _ hc) hn ih

theorem Desc.trans {L : Log} {a b c : Nat} (d1 : Desc L a b) (d2 : Desc L b c) : Desc L a c := by
  induction d1 with
  | refl _ => exact d2
  | step hp hc hn _ ih => exact .step hp hc hn (ih d2)

theorem Desc.tail {L : Log} {h : Nat} {p c : Entry} (d : Desc L h p.hash) (hp : p ∈ L.entries)
    (hc : c ∈ L.entries) (hn : c.hash ∈ p.next) : Desc L h c.hash :=
  d.trans (.step hp hc hn (.refl hc))

theorem Desc.left_mem {L : Log} {h x : Nat} (d : Desc L h x) : ∃ e ∈ L.entries, e.hash = h := by
  cases d with
  | refl he => exact ⟨_, he, rfl⟩
  | step hp _ _ _ => exact ⟨_, hp, rfl⟩

theorem Desc.right_mem {L : Log} {h x : Nat} (d : Desc L h x) : ∃ e ∈ L.entries, e.hash = x := by
  induction d with
  | refl he => exact ⟨_, he, rfl⟩
  | step _ _ _ _ ih => exact ih

theorem Desc.closed {U : List Entry} {S : Nat → Prop} (hS : NextClosed U S) {L : Log}
    (hsub : ∀ e ∈ L.entries, e ∈ U) {h x : Nat} (d : Desc L h x) : S h → S x := by
  induction d with
  | refl _ => exact id
  | step hp _ hn _ ih => exact fun hh => ih (hS _ (hsub _ hp) hh _ hn)

theorem Closed.nextClosed {U : List Entry} (hU : HashDet U) {D : Log} (hsub : ∀ e ∈ D.entries, e ∈ U)
    (hC : Closed D) : NextClosed U (fun h => has D.entries h = true) := by
  intro p hp hh n hn
  exact hC p (mem_of_has hU hsub hp hh) n hn

theorem CoveredBy.mono_heads {L : Log} {hs hs' : List Nat} (h : CoveredBy L hs)
    (hsub : ∀ x ∈ hs, x ∈ hs') : CoveredBy L hs' := by
  intro x hx
  obtain ⟨a, ha, d⟩ := h x hx
  exact ⟨a, hsub a ha, d⟩

theorem CoveredBy.of_entries_eq {L L' : Log} {hs : List Nat} (h : CoveredBy L hs)
    (he : L'.entries = L.entries) : CoveredBy L' hs := by
  intro x hx
  obtain ⟨a, ha, d⟩ := h x (he ▸ hx)
  exact ⟨a, ha, d.mono (fun e h => he ▸ h)⟩

theorem coveredBy_empty (id : Nat) (hs : List Nat) : CoveredBy (Log.empty id) hs := by
  intro x hx; simp [Log.empty] at hx

theorem desc_from_head {U : List Entry} (hM : ClockMono U) {L : Log} (hI : Inv U L) :
    ∀ x ∈ L.entries, ∃ h ∈ L.heads, Desc L h.hash x.hash := by
  refine Trav.above_induction Entry.lt_irrefl Entry.lt_trans _ fun x hx ih => ?_
  by_cases hr : x.hash ∈ nexts L.entries
  · obtain ⟨p, hp, hn⟩ := (mem_nexts _ _).mp hr
    obtain ⟨h, hh, d⟩ := ih p hp (hM p (hI.sub p hp) x (hI.sub x hx) hn)
    exact ⟨h, hh, d.tail hp hx hn⟩
  · exact ⟨x, (hI.heads x).mpr ⟨hx, hr⟩, .refl hx⟩

theorem heads_cover_inv {U : List Entry} (hM : ClockMono U) {L : Log} (hI : Inv U L) :
    CoveredBy L (L.heads.map (·.hash)) := by
  intro x hx
  obtain ⟨h, hh, d⟩ := desc_from_head hM hI x hx
  exact ⟨h.hash, List.mem_map.mpr ⟨h, hh, rfl⟩, d⟩

set_option linter.unusedVariables false in
/-- `hU` and `hT` are not used: `heads_cover_inv` is what the proof gives. -/
theorem heads_cover {U : List Entry} (hU : HashDet U) (hT : TieFree U) (hM : ClockMono U) (L : Log)
    (hG : Good U L) : CoveredBy L (L.heads.map (·.hash)) :=
  heads_cover_inv hM hG.inv

/-- the value written to `_remoteHeads` covers the log -/
theorem sortedHeads_cover {U : List Entry} (hM : ClockMono U) {L : Log} (hI : Inv U L) :
    CoveredBy L ((sortedHeads L).map (·.hash)) := by
  apply (heads_cover_inv hM hI).mono_heads
  intro h hh
  obtain ⟨e, he, rfl⟩ := List.mem_map.mp hh
  exact List.mem_map.mpr ⟨e, mem_sortedHeads.mpr he, rfl⟩

theorem append_ok_entries (canAppend : Entry → Bool) (L : Log) (mk : Nat → List Nat → Entry)
    (hcan : canAppend (mk (appendTime L) (appendNext L)) = true)
    (hfresh : has L.entries (mk (appendTime L) (appendNext L)).hash = false) :
    (append canAppend L mk).1.entries = L.entries ++ [mk (appendTime L) (appendNext L)] := by
  rw [append_eq, hcan]
  simp only [if_true]
  unfold set
  simp [hfresh]

/-- The new entry's `next` links are the hashes of the old heads, which covered the old log. -/
theorem append_covers {U : List Entry} (hM : ClockMono U) (canAppend : Entry → Bool) (L : Log)
    (mk : Nat → List Nat → Entry) (hI : Inv U L)
    (hnext : (mk (appendTime L) (appendNext L)).next = appendNext L)
    (hfresh : has L.entries (mk (appendTime L) (appendNext L)).hash = false)
    (hcan : canAppend (mk (appendTime L) (appendNext L)) = true) :
    CoveredBy (append canAppend L mk).1 [(mk (appendTime L) (appendNext L)).hash] := by
  have hent := append_ok_entries canAppend L mk hcan hfresh
  -- from here on the new entry is `e` and the new log `L'`: only `hent` says what they are
  generalize mk (appendTime L) (appendNext L) = e at *
  generalize (append canAppend L mk).1 = L' at *
  have hsub : ∀ y ∈ L.entries, y ∈ L'.entries := fun y hy => by
    rw [hent]; exact List.mem_append_left _ hy
  have heL : e ∈ L'.entries := by rw [hent]; simp
  intro x hx
  refine ⟨e.hash, List.mem_singleton.mpr rfl, ?_⟩
  rw [hent] at hx
  rcases List.mem_append.mp hx with hx | hx
  · obtain ⟨h, hh, d⟩ := desc_from_head hM hI x hx
    have hhL : h ∈ L.entries := hI.heads_sub h hh
    have hn : h.hash ∈ e.next := by rw [hnext, mem_appendNext]; exact ⟨h, hh, rfl⟩
    exact .step heL (hsub h hhL) hn (d.mono hsub)
  · rw [List.mem_singleton.mp hx]; exact .refl heL

end Orbit
