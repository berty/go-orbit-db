import OrbitModel.Model.Emitter
/-!
# The transitions of `handleSubscriber`, one by one

`Emit.step` is one nested conditional. Here it is taken apart once into its thirteen guarded
transitions (`Next`) and the conditions under which an action does nothing (`Blocked`); `step_spec`
says that these are all there is. Every invariant of `EmitterFifo`, `EmitterStop` and `EmitterSettle`
is then checked transition by transition, on an explicit record update, without looking at `step`
again: `step_inv` and `run_inv` turn a fact about every `Next` into a fact about `step` and `run`.
-/
namespace Orbit.Emit

/-- `Signal()`: reaches only a goroutine inside `Wait()` -/
def wake (g : G2) : G2 := if g == .waiting then .top else g

/-- Each transition carries the guard under which `step` takes it; only `g1enqueue` says less than
`step` does: it is taken when `g1direct`'s guard fails, which no invariant needs. -/
inductive Next (p : Bool) (s : St) : Act → St → Prop
  | emit (e : Nat) : s.cancelled = false →
      Next p s (.emit e) { s with bus := s.bus ++ [e], emitted := s.emitted ++ [e] }
  | cancel : Next p s .cancel { s with cancelled := true }
  | recv {e rest} : s.chan = e :: rest →
      Next p s .recv { s with chan := rest, delivered := s.delivered ++ [e] }
  | g1exit : s.g1done = false → s.cancelled = true → (p = true ∨ s.g2 ≠ .checked) →
      Next p s .g1 { s with g1done := true, g2 := wake s.g2 }
  | g1direct {e rest} : s.g1done = false → s.cancelled = false → s.bus = e :: rest →
      s.g2 ≠ .checked → s.queue = [] → (p = true ∨ inflight s = false) → s.chan.length < s.cap →
      Next p s .g1 { s with bus := rest, chan := s.chan ++ [e] }
  | g1enqueue {e rest} : s.g1done = false → s.cancelled = false → s.bus = e :: rest →
      s.g2 ≠ .checked → Next p s .g1 { s with bus := rest, queue := s.queue ++ [e], g2 := wake s.g2 }
  | g2exit : s.g2 = .top → s.cancelled = true → Next p s .g2 { s with g2 := .exited }
  | g2check : s.g2 = .top → s.cancelled = false → s.queue = [] → Next p s .g2 { s with g2 := .checked }
  | g2take {e rest} : s.g2 = .top → s.cancelled = false → s.queue = e :: rest →
      Next p s .g2 { s with queue := rest, g2 := .sending e }
  | g2wait : s.g2 = .checked → Next p s .g2 { s with g2 := .waiting }
  | g2abort {e} : s.g2 = .sending e → s.cancelled = true → Next p s .g2 { s with g2 := .top }
  | g2send {e} : s.g2 = .sending e → s.cancelled = false → s.chan.length < s.cap →
      Next p s .g2 { s with chan := s.chan ++ [e], g2 := .top }
  | g2close : s.g2 = .exited → s.g1done = true → s.closed = false → Next p s .g2 { s with closed := true }

def Blocked (p : Bool) (s : St) : Act → Prop
  | .emit _ => s.cancelled = true
  | .cancel => False
  | .recv => s.chan = []
  | .g1 => s.g1done = true ∨ (s.cancelled = false ∧ s.bus = []) ∨
      (s.g2 = .checked ∧ (s.cancelled = false ∨ p = false))
  | .g2 => s.g2 = .waiting ∨ (∃ e, s.g2 = .sending e ∧ s.cancelled = false ∧ s.cap ≤ s.chan.length) ∨
      (s.g2 = .exited ∧ (s.g1done = false ∨ s.closed = true))

theorem step_spec (p : Bool) (s : St) (a : Act) :
    Next p s a (step p s a) ∨ (Blocked p s a ∧ step p s a = s) := by
  -- with the fields as variables every guard below is decided by `rfl`
  obtain ⟨cap, bus, chan, queue, g2, g1done, cancelled, closed, delivered, emitted⟩ := s
  cases a with
  | emit e =>
    cases cancelled
    · exact .inl (.emit e rfl)
    · exact .inr ⟨rfl, rfl⟩
  | cancel => exact .inl .cancel
  | recv =>
    cases chan
    · exact .inr ⟨rfl, rfl⟩
    · exact .inl (.recv rfl)
  | g1 =>
    cases g1done
    case true => exact .inr ⟨.inl rfl, rfl⟩
    by_cases hg : g2 = .checked
    · -- G2 holds the lock: only the pinned code's unlocked shutdown signal gets past it
      subst hg
      cases cancelled
      · cases bus <;> exact .inr ⟨.inr (.inr ⟨rfl, .inl rfl⟩), rfl⟩
      · cases p
        · exact .inr ⟨.inr (.inr ⟨rfl, .inr rfl⟩), rfl⟩
        · exact .inl (.g1exit rfl rfl (.inl rfl))
    have hl : (g2 == .checked) = false := beq_eq_false_iff_ne.mpr hg
    cases cancelled
    case true =>
      have h := Next.g1exit (p := p)
        (s := ⟨cap, bus, chan, queue, g2, false, true, closed, delivered, emitted⟩) rfl rfl (.inr hg)
      simp only [step, g2HoldsLock, hl, Bool.and_false, Bool.false_eq_true, if_false]
      exact .inl h
    cases bus with
    | nil => exact .inr ⟨.inr (.inl ⟨rfl, rfl⟩), rfl⟩
    | cons e rest =>
      simp only [step, g2HoldsLock, hl, Bool.false_eq_true, if_false]
      split
      · rename_i hdir
        simp only [Bool.and_eq_true, List.isEmpty_iff, Bool.or_eq_true, Bool.not_eq_true',
          decide_eq_true_eq] at hdir
        exact .inl (.g1direct rfl rfl rfl hg hdir.1.1 hdir.1.2 hdir.2)
      · exact .inl (.g1enqueue rfl rfl rfl hg)
  | g2 =>
    cases g2 with
    | top =>
      cases cancelled
      · cases queue
        · exact .inl (.g2check rfl rfl rfl)
        · exact .inl (.g2take rfl rfl rfl)
      · exact .inl (.g2exit rfl rfl)
    | checked => exact .inl (.g2wait rfl)
    | waiting => exact .inr ⟨.inl rfl, rfl⟩
    | sending e =>
      cases cancelled
      · by_cases hl : chan.length < cap
        · exact .inl (by simpa [step, hl] using Next.g2send (p := p) rfl rfl hl)
        · exact .inr ⟨.inr (.inl ⟨e, rfl, rfl, Nat.le_of_not_lt hl⟩), by simp [step, hl]⟩
      · exact .inl (.g2abort rfl rfl)
    | exited =>
      cases g1done
      · exact .inr ⟨.inr (.inr ⟨rfl, .inl rfl⟩), rfl⟩
      · cases closed
        · exact .inl (.g2close rfl rfl rfl)
        · exact .inr ⟨.inr (.inr ⟨rfl, .inr rfl⟩), rfl⟩

variable {p : Bool} {s : St} {a : Act}

@[simp] theorem run_nil (p : Bool) (s : St) : run p s [] = s := rfl
@[simp] theorem run_cons (p : Bool) (s : St) (a : Act) (l : List Act) :
    run p s (a :: l) = run p (step p s a) l := rfl
theorem run_append (p : Bool) (s : St) (l₁ l₂ : List Act) :
    run p s (l₁ ++ l₂) = run p (run p s l₁) l₂ := by
  simp only [run, List.foldl_append]

theorem step_inv {P : St → Prop} (hnext : ∀ t, Next p s a t → P t) (h : P s) : P (step p s a) :=
  (step_spec p s a).elim (hnext _) (·.2.symm ▸ h)

theorem run_inv_mem {P : St → Prop} {acts : List Act}
    (hnext : ∀ s a t, a ∈ acts → Next p s a t → P s → P t) (h : P s) : P (run p s acts) :=
  List.foldlRecOn acts _ h fun s hs a ha => step_inv (hnext s a · ha · hs) hs

theorem run_inv {P : St → Prop} (hnext : ∀ s a t, Next p s a t → P s → P t)
    (acts : List Act) (h : P s) : P (run p s acts) :=
  run_inv_mem (fun s a t _ => hnext s a t) h

end Orbit.Emit
