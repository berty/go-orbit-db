import OrbitModel.Proofs.SnapshotRace
/-!
# `LoadFromSnapshot` through the fetcher (what the Go port does) = through the records   (C13)

`ipfslog.NewFromJSON` ignores the entries handed to it and fetches the ancestry of the recorded heads.
Whenever that fetch returns the entries the snapshot recorded — the node that saved the snapshot holds
their blocks, and a saved log is closed under `next` — both loaders build the same log, so every
theorem about `load` is a theorem about `loadFetching`.
-/
namespace Orbit.Snap

/-- `hf`: at rest the fetcher returns the ancestry of the heads, i.e. the log -/
theorem loadFetching_save {acl : Acl} {ser : Entry → List Nat} {serHeader : Image → List Nat}
    {de : List Nat → Option Entry} {deHeader : List Nat → Option (Nat × List Entry × Nat)}
    {L : Log} {bs : List Nat} (fetchAll : List Entry → List Entry)
    (hf : fetchAll (sortedHeads L) = L.entries)
    (hde : ∀ e ∈ L.entries, de (ser e) = some e)
    (hdh : deHeader (serHeader (imageOf L)) = some (L.id, sortedHeads L, L.entries.length))
    (hs : save ser serHeader L = some bs) :
    loadFetching acl de deHeader fetchAll bs = load acl de deHeader bs := by
  have hs' : written (serHeader (imageOf L)) ((L.entries ++ []).map ser) = some bs := by
    rw [List.append_nil]; exact hs
  rw [loadFetching_written fetchAll hs' hdh hde, load_written hs' hdh hde, hf]

/-- the heads are those of the first read, so the fetcher returns `L1`'s entries (`hf`) while the records
hold `L2`'s, a superset: the fetching loader joins exactly the log of the first read -/
theorem loadFetching_saveRacing {acl : Acl} {ser : Entry → List Nat} {serHeader : Image → List Nat}
    {de : List Nat → Option Entry} {deHeader : List Nat → Option (Nat × List Entry × Nat)}
    {L1 L2 L3 : Log} {y : List Entry} {bs : List Nat} (fetchAll : List Entry → List Entry)
    (hf : fetchAll (sortedHeads L1) = L1.entries) (h3 : L3.entries = L2.entries ++ y)
    (hde : ∀ e ∈ L2.entries, de (ser e) = some e)
    (hdh : deHeader (serHeader (racingImage L1 L2)) = some (L1.id, sortedHeads L1, L2.entries.length))
    (hs : saveRacing ser serHeader L1 L2 L3 = some bs) :
    loadFetching acl de deHeader fetchAll bs =
      match join acl.canAppend (Log.empty L1.id) (ofList L1.entries) (ofList (sortedHeads L1)) L1.id with
      | .ok L' => some L'
      | .error _ => none := by
  rw [saveRacing_eq_written, h3] at hs
  rw [loadFetching_written fetchAll hs hdh hde, hf]
  cases join acl.canAppend (Log.empty L1.id) (ofList L1.entries) (ofList (sortedHeads L1)) L1.id <;> rfl

end Orbit.Snap
