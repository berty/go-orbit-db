import OrbitModel.Proofs.IndexScan
/-!
# The key-value index equals last-writer-wins replay

`kvIndex.UpdateIndex` scans `Values()` newest → oldest with a `handled` set and mutates the map
it is handed (`kvUpdate idx`; in the Go code a fresh map since the `fix:` commit of F45, the previous
view, never cleared, before it). Provided the listing only contains PUT/DEL operations (the
kv API writes nothing else) and every key of the old index is mentioned in the listing, the result
is the plain oldest → newest replay from the empty map. As long as a store's listing only grows,
"index ≃ replay of the current listing" is an invariant from the empty index (`C06.index_step`); a `Load` with a
limit on a live store trims the listing, and since F45 the index is rebuilt from the empty map instead
(`C06.view_is_the_replay_of_the_listing`).
-/
namespace Orbit

/-- the `Key` field of an operation as the kv index sees it (`PUTALL` carries key `""`) -/
def opKey : Op → Option String
  | .put k _ => some k
  | .del k => some k
  | .putAll _ => some ""
  | _ => none

def mentions (vs : List Entry) (k : String) : Prop := ∃ e ∈ vs, opKey e.op = some k

/-- the kv API only writes PUT and DEL -/
def KvOps (vs : List Entry) : Prop := ∀ e ∈ vs, ∀ d, e.op ≠ .putAll d

def kvWop : Op → List Wr
  | .put k v => [(k, some v)]
  | .del k => [(k, none)]
  | _ => []

def kvW (e : Entry) : List Wr := kvWop e.op

theorem lwwStep_eq (m : KV) (e : Entry) : lwwStep m e = (kvW e).foldl applyW m := by
  unfold lwwStep kvW
  cases e.op <;> rfl

theorem lwwReplay_eq (vs : List Entry) : lwwReplay vs = replayW kvW vs :=
  foldl_eq_flat lwwStep applyW kvW vs [] (fun e _ acc => lwwStep_eq acc e)

theorem kvStep_eq (acc : List String × KV) (e : Entry) (h : ∀ d, e.op ≠ .putAll d) :
    kvStep acc e = (kvW e).foldl wStep acc := by
  unfold kvStep kvW
  cases ho : e.op with
  | putAll d => exact absurd ho (h d)
  | _ => rfl

theorem kvUpdate_eq (idx : KV) (vs : List Entry) (hops : KvOps vs) :
    kvUpdate idx vs = scanW kvW idx vs := by
  unfold kvUpdate scanW
  rw [foldl_eq_flat kvStep wStep kvW vs.reverse ([], idx)
    (fun e he acc => kvStep_eq acc e (hops e (List.mem_reverse.mp he)))]

theorem nodupW_kvW (vs : List Entry) : NodupW kvW vs := by
  intro e _
  unfold kvW
  cases e.op <;> simp [kvWop]

theorem writesW_kvW_of_mentions {vs : List Entry} (hops : KvOps vs) {k : String}
    (h : mentions vs k) : writesW kvW vs k := by
  obtain ⟨e, he, hk⟩ := h
  refine ⟨e, he, ?_⟩
  unfold kvW
  cases ho : e.op with
  | put k' v | del k' => rw [ho] at hk; cases hk; exact List.mem_singleton.mpr rfl
  | putAll d => exact absurd ho (hops e he d)
  | _ => rw [ho] at hk; cases hk

theorem kvUpdate_eq_replay (idx : KV) (vs : List Entry) (hops : KvOps vs)
    (hpre : ∀ k, (KV.get idx k).isSome → mentions vs k) :
    KV.equiv (kvUpdate idx vs) (lwwReplay vs) := by
  rw [kvUpdate_eq idx vs hops, lwwReplay_eq]
  exact scanW_eq_replayW kvW idx vs (nodupW_kvW vs)
    (fun k hk => writesW_kvW_of_mentions hops (hpre k hk))

theorem get_lwwStep_of_ne (m : KV) (e : Entry) (k : String) (h : opKey e.op ≠ some k) :
    KV.get (lwwStep m e) k = KV.get m k := by
  unfold lwwStep
  cases ho : e.op with
  | put k' v => rw [KV.get_put, if_neg]; rintro rfl; exact h (by rw [ho]; rfl)
  | del k' => rw [KV.get_erase, if_neg]; rintro rfl; exact h (by rw [ho]; rfl)
  | putAll d => rfl
  | add v => rfl
  | other => rfl

theorem get_foldl_lwwStep_of_ne (vs : List Entry) (m : KV) (k : String)
    (h : ∀ e ∈ vs, opKey e.op ≠ some k) : KV.get (vs.foldl lwwStep m) k = KV.get m k := by
  induction vs generalizing m with
  | nil => rfl
  | cons e es ih =>
    rw [List.foldl_cons, ih _ (fun x hx => h x (List.mem_cons_of_mem _ hx)),
      get_lwwStep_of_ne _ _ _ (h e List.mem_cons_self)]

theorem lww_other_key (vs : List Entry) (u : Entry) (k : String) (hu : opKey u.op ≠ some k) :
    KV.get (lwwReplay (vs ++ [u])) k = KV.get (lwwReplay vs) k := by
  unfold lwwReplay
  rw [List.foldl_append]
  exact get_lwwStep_of_ne _ u k hu

private def mk (h : Nat) (o : Op) : Entry := { hash := h, logId := 1, time := h, cid := 0, next := [], op := o }

/-- a listing with overwrites and a delete, and an old index holding stale values -/
private def exVs : List Entry :=
  [mk 1 (.put "a" "1"), mk 2 (.put "b" "2"), mk 3 (.del "a"), mk 4 (.put "b" "3"), mk 5 (.put "c" "4")]
private def exIdx : KV := [("a", "1"), ("b", "2")]

example : KV.equiv (kvUpdate exIdx exVs) (lwwReplay exVs) := by
  apply kvUpdate_eq_replay
  · intro e he d
    simp only [exVs, List.mem_cons, List.not_mem_nil, or_false] at he
    rcases he with rfl | rfl | rfl | rfl | rfl <;> exact nofun
  · intro k hk
    simp only [exIdx, KV.get_cons, KV.get_nil] at hk
    split at hk
    · next h => exact h ▸ ⟨mk 1 (.put "a" "1"), List.mem_cons_self, rfl⟩
    · split at hk
      · next h => exact h ▸ ⟨mk 2 (.put "b" "2"), List.mem_cons_of_mem _ List.mem_cons_self, rfl⟩
      · cases hk

/-- the outcome: `a` deleted, `b` overwritten, `c` added (the association lists differ in order only,
which `KV.equiv` ignores as Go map iteration order is not observable) -/
example : kvUpdate exIdx exVs = [("b", "3"), ("c", "4")] ∧ lwwReplay exVs = [("c", "4"), ("b", "3")] := by
  decide

/-- the precondition is necessary: `kvUpdate` does not clear the index it is handed, so a stale key
that the listing does not mention survives although replay does not have it (`UpdateIndex` before the
`fix:` commit of F45) -/
theorem kvUpdate_stale_witness :
    KV.get (kvUpdate [("stale", "x")] [mk 1 (.put "a" "1")]) "stale" = some "x" ∧
    KV.get (lwwReplay [mk 1 (.put "a" "1")]) "stale" = none ∧
    ¬ mentions [mk 1 (.put "a" "1")] "stale" := by
  refine ⟨by decide, by decide, ?_⟩
  rintro ⟨e, he, hk⟩
  simp only [List.mem_cons, List.not_mem_nil, or_false] at he
  subst he
  simp [mk, opKey] at hk

/-- `KvOps` is necessary for `kvUpdate`: a PUTALL entry in a kv log has key `""` and an op that is
neither PUT nor DEL; `kvStep` marks `""` handled without writing, hiding an older PUT of key `""`.
(The Go loop did the same on the pinned tree; since the `fix:` commit of F35 it skips such an entry
before the `handled` test, and `kvStep` does not follow it there.) -/
theorem kvUpdate_putAll_quirk :
    KV.get (kvUpdate [] [mk 1 (.put "" "v"), mk 2 (.putAll [])]) "" = none ∧
    KV.get (lwwReplay [mk 1 (.put "" "v"), mk 2 (.putAll [])]) "" = some "v" := by
  decide

end Orbit
