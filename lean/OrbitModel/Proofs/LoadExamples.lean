import OrbitModel.Proofs.LoadChain
/-!
# `Load(n)` on concrete chains: every limit, one and two cached heads, and where the clamp is not enough  (C15)
-/
namespace Orbit.LoadExample

def c1 : Entry := { hash := 1, logId := 9, time := 1, cid := 0, next := [] }
def c2 : Entry := { hash := 2, logId := 9, time := 2, cid := 0, next := [1] }
def c3 : Entry := { hash := 3, logId := 9, time := 3, cid := 0, next := [2] }
def c4 : Entry := { hash := 4, logId := 9, time := 4, cid := 0, next := [3] }
def chain4 : List Entry := [c1, c2, c3, c4]
def chain3 : List Entry := [c1, c2, c3]
def acl : Acl := { wildcard := true }

def listing (r : Except Err Store) : Except Err (List Nat) := r.map (fun s => (values s.log).map (·.hash))

/-- the bounded fetcher over a chain: the newest `n` entries from `h` down (everything if `n ≤ 0`) -/
def fetchN (c : List Entry) (n : Int) (h : Nat) : OMap :=
  let below := (c.filter (fun e => e.hash ≤ h)).reverse
  if n ≤ 0 then below else below.take n.toNat

/-- the same fetcher when it also brings the direct `next` of the last entry (go-ipfs-log does) -/
def fetchN1 (c : List Entry) (n : Int) (h : Nat) : OMap :=
  let below := (c.filter (fun e => e.hash ≤ h)).reverse
  if n ≤ 0 then below else below.take (n.toNat + 1)

def fresh (h : Nat) : Store := { log := Log.empty 9, localHeads := some [h] }

def loadN (f : List Entry → Int → Nat → OMap) (c : List Entry) (h : Nat) (n : Int) : Except Err (List Nat) :=
  listing (Store.load acl (fresh h) (f c (loadAmount n none)) n)

instance : DecidableEq (Except Err (List Nat)) := fun a b =>
  match a, b with
  | .ok x, .ok y => if h : x = y then isTrue (h ▸ rfl) else isFalse (fun e => h (by injection e))
  | .error x, .error y => if h : x = y then isTrue (h ▸ rfl) else isFalse (fun e => h (by injection e))
  | .ok _, .error _ => isFalse (fun e => by cases e)
  | .error _, .ok _ => isFalse (fun e => by cases e)

theorem load_chain4_all_limits :
    loadN fetchN chain4 4 (-2) = .ok [1, 2, 3, 4] ∧ loadN fetchN chain4 4 (-1) = .ok [1, 2, 3, 4] ∧
    loadN fetchN chain4 4 0 = .ok [1, 2, 3, 4] ∧ loadN fetchN chain4 4 1 = .ok [4] ∧
    loadN fetchN chain4 4 2 = .ok [3, 4] ∧ loadN fetchN chain4 4 3 = .ok [2, 3, 4] ∧
    loadN fetchN chain4 4 4 = .ok [1, 2, 3, 4] ∧ loadN fetchN chain4 4 5 = .ok [1, 2, 3, 4] ∧
    loadN fetchN chain4 4 6 = .ok [1, 2, 3, 4] ∧ loadN fetchN chain4 4 7 = .ok [1, 2, 3, 4] := by
  decide +kernel

/-- the same when the fetcher over-fetches by one entry: the trim cuts it back -/
theorem load_chain4_all_limits_overfetch :
    loadN fetchN1 chain4 4 (-2) = .ok [1, 2, 3, 4] ∧ loadN fetchN1 chain4 4 (-1) = .ok [1, 2, 3, 4] ∧
    loadN fetchN1 chain4 4 0 = .ok [1, 2, 3, 4] ∧ loadN fetchN1 chain4 4 1 = .ok [4] ∧
    loadN fetchN1 chain4 4 2 = .ok [3, 4] ∧ loadN fetchN1 chain4 4 3 = .ok [2, 3, 4] ∧
    loadN fetchN1 chain4 4 4 = .ok [1, 2, 3, 4] ∧ loadN fetchN1 chain4 4 5 = .ok [1, 2, 3, 4] ∧
    loadN fetchN1 chain4 4 6 = .ok [1, 2, 3, 4] ∧ loadN fetchN1 chain4 4 7 = .ok [1, 2, 3, 4] := by
  decide +kernel

theorem chain4_isChain : IsChain 9 chain4 :=
  ⟨by decide, by decide, by decide, by decide⟩

example : ∃ s', Store.load acl (fresh 4) (fetchN chain4 2) 2 = .ok s' ∧ values s'.log = [c3, c4] :=
  load_single_head_chain_exact chain4_isChain acl (by decide) (by decide) (fresh 4) rfl rfl rfl
    (fetchN chain4 2) 2 (by decide) (by decide)

example : ∃ s', Store.load acl (fresh 4) (fetchN1 chain4 2) 2 = .ok s' ∧ values s'.log = [c3, c4] :=
  load_single_head_chain chain4_isChain acl (by decide) (fresh 4) 4 rfl rfl rfl
    (fetchN1 chain4 2) 2 1
    (fun e => by rw [show fetchN1 chain4 2 4 = (List.drop 1 chain4).reverse by decide]; exact List.mem_reverse)
    (by decide)

/-! ### the clamp is not enough on a log that is not closed

A store that received only the entry `c3` (heads exchange: a one-entry log) holds `c3` without its
parents: a good log, not closed. `Load(3)` then fetches `c4, c3, c2, c1`; the clamp counts the 3
entries not held, 4 in all, and so asks `Join` to keep 3; but `Join` stops at the held `c3` and
merges `c4` only: 2 values, and `tmp[len(tmp)-3:]` panics. `loadHead0_no_panic` excludes this with
`Closed L ∨ amount ≤ |L|`. -/

def okOr (x : Except Err Log) (d : Log) : Log := match x with | .ok l => l | .error _ => d

def held : Log := okOr (join acl.canAppend (Log.empty 9) [c3] [c3] 9) (Log.empty 9)

theorem held_good : Good chain4 held :=
  reachable_good (canAppend := acl.canAppend) (id := 9) chain4_isChain.hashDet chain4_isChain.clockMono
    (.step .empty (.join (Log.empty 9) held [c3] [c3] 9 ⟨by decide, by decide⟩ (by decide) rfl))

def isPanic (r : Except Err Log) : Bool := match r with | .error .panic => true | _ => false

theorem loadHead0_panic_nonclosed :
    isPanic (loadHead0 acl (fun _ => [c4, c3, c2, c1]) 3 held 4) = true ∧
    Fetched chain4 held [c4, c3, c2, c1] ∧ ¬ Closed held ∧ ¬ ((3 : Int) ≤ held.entries.length) := by
  refine ⟨by decide +kernel, ⟨by decide, by decide⟩, ?_, by decide⟩
  intro h
  exact absurd (h c3 (by decide) 2 (by decide)) (by decide)

/-- on the same log every amount that the hypothesis of `loadHead0_no_panic` allows is fine -/
example : loadHead0 acl (fun _ => [c4, c3, c2, c1]) 1 held 4 ≠ .error .panic :=
  loadHead0_no_panic chain4_isChain.hashDet chain4_isChain.tieFree chain4_isChain.clockMono
    acl _ 1 4 held_good ⟨by decide, by decide⟩ (Or.inr (by decide))

/-! ### a store that holds the top of the chain (for the "load more" witness of C15, finding F36) -/

/-- the store after `Load(2)` of the 4-chain: it holds `c3, c4`, its head is `c4` -/
def top2 : Log := okOr (join acl.canAppend (Log.empty 9) [c4, c3] [c4] 9) (Log.empty 9)

def lst (r : Except Err Log) : Except Err (List Nat) := r.map (fun L => (values L).map (·.hash))

/-! ### two cached heads (checked instance only: the general statement for several heads is not
proved — after a trim the `Next` index is stale, so the log is no longer `Good`) -/

def f1 : Entry := { hash := 1, logId := 9, time := 1, cid := 0, next := [] }
def f2 : Entry := { hash := 2, logId := 9, time := 2, cid := 0, next := [1] }
def f3 : Entry := { hash := 3, logId := 9, time := 3, cid := 0, next := [2] }
def f4 : Entry := { hash := 4, logId := 9, time := 4, cid := 1, next := [2] }
def f5 : Entry := { hash := 5, logId := 9, time := 5, cid := 0, next := [3] }

/-- ancestry of the two heads `f5` (`f1 ← f2 ← f3 ← f5`) and `f4` (`f1 ← f2 ← f4`), newest first -/
def anc (h : Nat) : List Entry := if h = 5 then [f5, f3, f2, f1] else if h = 4 then [f4, f2, f1] else []

/-- bounded fetcher bringing one entry more than asked -/
def fetchFork (n : Int) (h : Nat) : OMap := if n ≤ 0 then anc h else (anc h).take (n.toNat + 1)

def loadFork (hs : List Nat) (n : Int) : Except Err (List Nat) :=
  listing (Store.load acl { log := Log.empty 9, localHeads := some hs } (fetchFork (loadAmount n none)) n)

theorem load_fork_all_limits :
    loadFork [5, 4] (-1) = .ok [1, 2, 3, 4, 5] ∧ loadFork [5, 4] 0 = .ok [1, 2, 3, 4, 5] ∧
    loadFork [5, 4] 1 = .ok [5] ∧ loadFork [5, 4] 2 = .ok [4, 5] ∧ loadFork [5, 4] 3 = .ok [3, 4, 5] ∧
    loadFork [5, 4] 4 = .ok [2, 3, 4, 5] ∧ loadFork [5, 4] 5 = .ok [1, 2, 3, 4, 5] ∧
    loadFork [5, 4] 6 = .ok [1, 2, 3, 4, 5] ∧
    loadFork [4, 5] 1 = .ok [5] ∧ loadFork [4, 5] 2 = .ok [4, 5] ∧ loadFork [4, 5] 3 = .ok [3, 4, 5] ∧
    loadFork [4, 5] 4 = .ok [2, 3, 4, 5] ∧ loadFork [4, 5] 5 = .ok [1, 2, 3, 4, 5] := by
  decide +kernel

end Orbit.LoadExample
