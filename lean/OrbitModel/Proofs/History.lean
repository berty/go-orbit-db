import OrbitModel.Proofs.Stable
import OrbitModel.Spec.Replay
/-!
# Histories: successive states of one replica's log, and the index that tracks them
-/
namespace Orbit

/-- `History ca U L₀ [L₁, …, Lₙ]`: each `Lᵢ₊₁` is one `Step` after `Lᵢ`. -/
inductive History (ca : Entry → Bool) (U : List Entry) : Log → List Log → Prop
  | nil (L : Log) : History ca U L []
  | cons {L L' : Log} {rest : List Log} : Step ca U L L' → History ca U L' rest → History ca U L (L' :: rest)

/-- `upd` is the `UpdateIndex` loop of a store, run over the index of the step before; `rep` the replay it
should agree with, `P` what `upd` needs of the listing (`KvOps`, `DocWF`). An update that is right whenever the listing has only grown (`hstep`) is right
along every history, because a `Step` only adds to the listing. -/
theorem history_fold_inv {ca : Entry → Bool} {U : List Entry} (hU : HashDet U) (hT : TieFree U)
    (hM : ClockMono U) {upd : KV → List Entry → KV} {rep : List Entry → KV} {P : List Entry → Prop}
    (hstep : ∀ idx vs vs', P vs' → KV.equiv idx (rep vs) → (∀ e ∈ vs, e ∈ vs') →
      KV.equiv (upd idx vs') (rep vs')) :
    ∀ {L : Log} {ls : List Log}, Good U L → History ca U L ls → ∀ idx, KV.equiv idx (rep (values L)) →
      (∀ L' ∈ ls, P (values L')) →
      KV.equiv (ls.foldl (fun idx L => upd idx (values L)) idx)
        (rep (values ((L :: ls).getLast (by simp)))) := by
  intro L ls hG h
  induction h with
  | nil L => exact fun idx hinv _ => hinv
  | @cons L L' rest hs _ ih =>
    intro idx hinv hP
    exact ih (good_step hU hM hG hs) _
      (hstep idx _ _ (hP L' List.mem_cons_self) hinv
        (good_step_values_sublist hU hT hM hG hs).subset)
      (fun x hx => hP x (List.mem_cons_of_mem _ hx))

/-- `Good` for EVERY log of the history, not only the last as the name has it -/
theorem history_getLast_good {ca : Entry → Bool} {U : List Entry} (hU : HashDet U) (hM : ClockMono U) :
    ∀ {L : Log} {ls : List Log}, Good U L → History ca U L ls → ∀ L' ∈ L :: ls, Good U L' := by
  intro L ls hG h
  induction h with
  | nil L => intro L' h'; simp at h'; exact h' ▸ hG
  | @cons L L' rest hs _ ih =>
    intro L'' h''
    rcases List.mem_cons.mp h'' with rfl | h''
    · exact hG
    · exact ih (good_step hU hM hG hs) L'' h''

end Orbit
