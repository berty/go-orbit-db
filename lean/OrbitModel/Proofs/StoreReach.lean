import OrbitModel.Proofs.StoreCovers
/-!
# Reachable stores keep their log covered by the cached heads

`StoreReachable`: stores built from an empty log by `AddOperation` (allowed or denied) and by
`replicationLoadComplete` of *any* honest batch (rejected logs are skipped). The example is finding F6:
in the pinned tree, with a batch whose second log is refused, the first log stayed merged while the cache
kept naming only the old head.
-/
namespace Orbit

inductive StoreReachable (acl : Acl) (U : List Entry) : Store → Prop
  /-- a store whose log is empty (fresh, or reopened: the cache may hold anything) -/
  | init (s : Store) (id : Nat) (h : s.log = Log.empty id) : StoreReachable acl U s
  | addOp {s : Store} (mk : Nat → List Nat → Entry) : StoreReachable acl U s →
      WriteOk acl U s.log mk → StoreReachable acl U (s.addOp acl mk).1
  | loadEnd {s : Store} (logs : List (OMap × OMap)) : StoreReachable acl U s →
      BatchHonest U s.log.id logs → StoreReachable acl U (s.loadEnd acl logs)

theorem storeReachable_covers {acl : Acl} {U : List Entry} (hU : HashDet U) (hM : ClockMono U)
    {s : Store} (h : StoreReachable acl U s) : Good U s.log ∧ StoreCovers s := by
  induction h with
  | init s id h =>
    refine ⟨h ▸ good_empty U id, ?_⟩
    unfold StoreCovers
    rw [h]; exact coveredBy_empty id _
  | addOp mk _ hw ih => exact ⟨addOp_good hU hM ih.1 hw, addOp_covers hM ih.1 hw ih.2⟩
  | loadEnd logs _ hB ih => exact ⟨loadEnd_good hU hM ih.1 hB, loadEnd_covers hU hM ih.1 hB⟩

namespace AbortExample

def a   : Entry := { hash := 1, logId := 1, time := 1, cid := 0, next := [] }
def b   : Entry := { hash := 2, logId := 1, time := 1, cid := 1, next := [] }
def bad : Entry := { hash := 3, logId := 1, time := 1, cid := 2, next := [], ident := 7 }
def U : List Entry := [a, b, bad]
def acl : Acl := { ids := [0] }

/-- a store that wrote `a` … -/
def s1 : Store := (({} : Store).addOp acl (fun _ _ => a)).1
/-- … and is handed a batch of two logs: `[b]` is merged, `[bad]` is refused -/
def batch : List (OMap × OMap) := [([b], [b]), ([bad], [bad])]
def s2 : Store := (s1.loadEndPinned acl batch).1

theorem hU : HashDet U := by unfold HashDet; decide
theorem hM : ClockMono U := by unfold ClockMono; decide

theorem s1_reachable : StoreReachable acl U s1 :=
  .addOp _ (.init {} 1 rfl) (fun _ => by decide)

end AbortExample

open AbortExample

/-- F6: in the pinned tree an aborted batch does not preserve `StoreCovers`. -/
theorem loadEndPinned_abort_uncovered :
    StoreCovers s1 ∧ (s1.loadEndPinned acl batch).2 = false ∧ s2.log.entries = [a, b] ∧
    s2.cachedHeads = [1] ∧ ¬ StoreCovers s2 := by
  have hheads : s2.cachedHeads = [1] := by decide
  refine ⟨(storeReachable_covers hU hM s1_reachable).2, by decide, by decide, hheads, fun hc => ?_⟩
  obtain ⟨h, hh, d⟩ := hc b (by decide)
  rw [hheads, List.mem_singleton] at hh
  subst hh
  -- `a` (hash 1) has no `next` link: `{1}` is `next`-closed, so a path from 1 ends at 1
  have hS : NextClosed s2.log.entries (· = 1) := by unfold NextClosed; decide
  exact absurd (d.closed hS (fun _ h => h) rfl) (by decide)

/-- the repaired code on the same batch: `_remoteHeads` is rewritten with both heads -/
theorem loadEnd_skip_covered :
    (s1.loadEnd acl batch).log.entries = [a, b] ∧ (s1.loadEnd acl batch).cachedHeads = [1, 2, 1] ∧
    StoreCovers (s1.loadEnd acl batch) :=
  ⟨by decide, by decide,
    loadEnd_covers hU hM (storeReachable_covers hU hM s1_reachable).1 (batchHonest_iff.mpr (by decide))⟩

end Orbit
