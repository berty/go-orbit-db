import OrbitModel.Proofs.NetConverge
/-!
# A canonical final phase, and executable checkers (C02)

`canonFinal u s`: for every ordered pair, `send i j` immediately followed by the handling of that
message; it is always valid and is a `FinalPhase` -- so the hypothesis of `converge` is satisfiable
from every reachable state (`converge_canon`). `validRunB`, `finalPhaseB` are Boolean checkers, sound
for `ValidRun` / `FinalPhase`, used by the concrete examples.
-/
namespace Orbit.Net

def headsOf (s : State) (i : Nat) : List Nat :=
  match s.reps[i]? with
  | some r => r.heads
  | none => []

/-- `i` announces to `j`, `j` handles that message at once; its cache afterwards: both head lists -/
def exch (s : State) (i j : Nat) : List Act :=
  [.send i j, .recv s.soup.length (headsOf s j ++ headsOf s i)]

def canon (u : Univ) : State → List (Nat × Nat) → List Act
  | _, [] => []
  | s, (i, j) :: ps => exch s i j ++ canon u (run u s (exch s i j)) ps

def pairs (n : Nat) : List (Nat × Nat) :=
  (List.range n).flatMap fun i => ((List.range n).filter (· != i)).map fun j => (i, j)

def canonFinal (u : Univ) (s : State) : List Act := canon u s (pairs s.reps.length)

theorem mem_pairs {n i j : Nat} (hi : i < n) (hj : j < n) (hij : i ≠ j) : (i, j) ∈ pairs n := by
  simp only [pairs, List.mem_flatMap, List.mem_range, List.mem_map, List.mem_filter, bne_iff_ne]
  exact ⟨i, hi, j, ⟨hj, fun h => hij h.symm⟩, rfl⟩

theorem ancAll_append (u : Univ) (a b : List Nat) : ancAll u (a ++ b) = ancAll u a ++ ancAll u b := by
  simp only [ancAll, List.flatMap_append]

theorem validRun_exch (u : Univ) (s : State) (i j : Nat) (hc : Covers u s) :
    ValidRun u s (exch s i j) := by
  refine ⟨trivial, ?_, trivial⟩
  intro m hm r hr x hx
  cases hi : s.reps[i]? with
  | none =>
    simp only [step, hi] at hm
    simp only [List.getElem?_eq_none (Nat.le_refl _)] at hm
    cases hm
  | some ri =>
    rw [send_soup u hi j] at hm
    cases hm
    simp only [step, hi] at hr
    simp only [headsOf, hi, hr, ancAll_append, List.mem_append]
    rcases hx with hx | hx
    · exact Or.inl (covers_iff.mp hc j r hr x hx)
    · exact Or.inr hx

theorem validRun_canon (u : Univ) (s : State) (ps : List (Nat × Nat)) (hc : Covers u s) :
    ValidRun u s (canon u s ps) := by
  induction ps generalizing s with
  | nil => trivial
  | cons p ps ih =>
    obtain ⟨i, j⟩ := p
    have h := validRun_exch u s i j hc
    exact validRun_append.mpr ⟨h, ih _ (covers_run hc h)⟩

theorem noWrite_canon (u : Univ) (s : State) (ps : List (Nat × Nat)) :
    ∀ a ∈ canon u s ps, a.isWrite = false := by
  induction ps generalizing s with
  | nil => intro a ha; cases ha
  | cons p ps ih =>
    obtain ⟨i, j⟩ := p
    intro a ha
    simp only [canon, exch, List.cons_append, List.nil_append, List.mem_cons] at ha
    rcases ha with rfl | rfl | ha
    · rfl
    · rfl
    · exact ih _ a ha

theorem delivers_append_left {u : Univ} {s : State} {as rest : List Act} {i j : Nat}
    (h : Delivers u (run u s as) rest i j) : Delivers u s (as ++ rest) i j := by
  obtain ⟨pre, mid, post, c, rfl⟩ := h
  refine ⟨as ++ pre, mid, post, c, ?_⟩
  rw [run_append, List.append_assoc]

theorem delivers_canon (u : Univ) (s : State) (ps : List (Nat × Nat)) (i j : Nat)
    (h : (i, j) ∈ ps) : Delivers u s (canon u s ps) i j := by
  induction ps generalizing s with
  | nil => cases h
  | cons p ps ih =>
    obtain ⟨i', j'⟩ := p
    rcases List.mem_cons.mp h with h | h
    · cases h
      exact ⟨[], [], _, _, rfl⟩
    · exact delivers_append_left (ih _ h)

theorem finalPhase_canonFinal (u : Univ) (s : State) :
    FinalPhase u s s.reps.length (canonFinal u s) :=
  ⟨noWrite_canon u s _, fun i j hi hj hij => delivers_canon u s _ i j (mem_pairs hi hj hij)⟩

theorem converge_canon (u : Univ) (n : Nat) (pre : List Act) (hv : ValidRun u (init n) pre) :
    let s := run u (init n) (pre ++ canonFinal u (run u (init n) pre))
    ∀ r ∈ s.reps, ∀ h ∈ s.acked, h ∈ r.held := by
  have hc := covers_run (covers_init u n) hv
  refine converge_from_init u n pre _ (validRun_append.mpr ⟨hv, validRun_canon u _ _ hc⟩) ?_
  have := finalPhase_canonFinal u (run u (init n) pre)
  rwa [run_length, init_length] at this

def validB (u : Univ) (s : State) : Act → Bool
  | .write i h => match s.reps[i]? with
    | some r => (u.anc h).all (fun x => x == h || r.held.contains x) &&
        r.held.all (fun x => (u.anc h).contains x)
    | none => true
  | .recv k cache => match s.soup[k]? with
    | some m => match s.reps[m.dst]? with
      | some r => (r.held ++ ancAll u m.heads).all (fun x => (ancAll u cache).contains x)
      | none => true
    | none => true
  | _ => true

def validRunB (u : Univ) : State → List Act → Bool
  | _, [] => true
  | s, a :: as => validB u s a && validRunB u (step u s a) as

theorem valid_of_validB {u : Univ} {s : State} {a : Act} (h : validB u s a = true) : Valid u s a := by
  cases a with
  | write i w =>
    intro r hr
    simp only [validB, hr, Bool.and_eq_true, List.all_eq_true, Bool.or_eq_true, beq_iff_eq,
      List.contains_iff_mem] at h
    exact h
  | recv k c =>
    intro m hm r hr x hx
    simp only [validB, hm, hr, List.all_eq_true, List.mem_append, List.contains_iff_mem] at h
    exact h x hx
  | send i j => trivial
  | restart i => trivial
  | fault => trivial

theorem validRun_of_validRunB {u : Univ} {s : State} {as : List Act} (h : validRunB u s as = true) :
    ValidRun u s as := by
  induction as generalizing s with
  | nil => trivial
  | cons a as ih =>
    simp only [validRunB, Bool.and_eq_true] at h
    exact ⟨valid_of_validB h.1, ih h.2⟩

def isRecvAt (k : Nat) : Act → Bool
  | .recv k' _ => k' == k
  | _ => false

def isSend (i j : Nat) : Act → Bool
  | .send i' j' => i' == i && j' == j
  | _ => false

def deliversB (u : Univ) : State → List Act → Nat → Nat → Bool
  | _, [], _, _ => false
  | s, a :: as, i, j =>
    (isSend i j a && as.any (isRecvAt s.soup.length)) || deliversB u (step u s a) as i j

def finalPhaseB (u : Univ) (s : State) (n : Nat) (fin : List Act) : Bool :=
  fin.all (fun a => !a.isWrite) &&
    (List.range n).all fun i => (List.range n).all fun j => i == j || deliversB u s fin i j

theorem eq_send_of_isSend {i j : Nat} {a : Act} (h : isSend i j a = true) : a = .send i j := by
  cases a with
  | send i' j' => simp only [isSend, Bool.and_eq_true, beq_iff_eq] at h; rw [h.1, h.2]
  | _ => cases h

theorem eq_recv_of_isRecvAt {k : Nat} {a : Act} (h : isRecvAt k a = true) : ∃ c, a = .recv k c := by
  cases a with
  | recv k' c => exact ⟨c, by rw [beq_iff_eq.mp h]⟩
  | _ => cases h

theorem delivers_of_deliversB {u : Univ} {s : State} {fin : List Act} {i j : Nat}
    (h : deliversB u s fin i j = true) : Delivers u s fin i j := by
  induction fin generalizing s with
  | nil => cases h
  | cons a as ih =>
    simp only [deliversB, Bool.or_eq_true, Bool.and_eq_true, List.any_eq_true] at h
    rcases h with ⟨hs, b, hb, hr⟩ | h
    · obtain ⟨mid, post, rfl⟩ := List.append_of_mem hb
      obtain ⟨c, rfl⟩ := eq_recv_of_isRecvAt hr
      exact ⟨[], mid, post, c, by rw [eq_send_of_isSend hs]; rfl⟩
    · exact delivers_append_left (as := [a]) (ih h)

theorem finalPhase_of_finalPhaseB {u : Univ} {s : State} {n : Nat} {fin : List Act}
    (h : finalPhaseB u s n fin = true) : FinalPhase u s n fin := by
  simp only [finalPhaseB, Bool.and_eq_true, List.all_eq_true, List.mem_range, Bool.or_eq_true,
    beq_iff_eq, Bool.not_eq_true'] at h
  refine ⟨h.1, fun i j hi hj hij => ?_⟩
  rcases h.2 i hi j hj with h | h
  · exact absurd h hij
  · exact delivers_of_deliversB h

end Orbit.Net
