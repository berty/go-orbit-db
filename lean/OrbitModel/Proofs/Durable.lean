import OrbitModel.Proofs.Covers
import OrbitModel.Proofs.Recover
/-!
# The durable log of a trace prefix, and what recovery returns from it   (C05)

`Durable U p D`: after the effects `p` the disk holds the block of every entry of the log `D`, the
cached heads are members of `D` and cover it, `D` is closed under `next`, and every acknowledged
write / replicated entry in `p` is a member of `D`. Then `recover` returns exactly the hashes of `D`.
-/
namespace Orbit

structure Durable (U : List Entry) (p : List Eff) (D : Log) : Prop where
  good   : Good U D
  closed : Closed D
  blocks : ∀ e ∈ D.entries, e.hash ∈ (diskOf p).blocks
  roots  : ∀ h ∈ (diskOf p).lheads ++ (diskOf p).rheads, has D.entries h = true
  covers : CoveredBy D ((diskOf p).lheads ++ (diskOf p).rheads)
  acks   : ∀ h, Eff.ack h ∈ p → has D.entries h = true
  repl   : ∀ hs, Eff.replicated hs ∈ p → ∀ h ∈ hs, has D.entries h = true

theorem diskOf_snoc (p : List Eff) (e : Eff) : diskOf (p ++ [e]) = (diskOf p).apply e := by
  simp [diskOf, List.foldl_append]

theorem foldl_blocks (p : List Eff) : ∀ (d : Disk) (h : Nat),
    h ∈ (p.foldl Disk.apply d).blocks ↔ h ∈ d.blocks ∨ Eff.block h ∈ p := by
  induction p with
  | nil => intro d h; simp
  | cons e es ih =>
    intro d h
    rw [List.foldl_cons, ih]
    cases e <;> simp [Disk.apply, or_assoc, or_left_comm]

theorem mem_blocks (p : List Eff) (h : Nat) : h ∈ (diskOf p).blocks ↔ Eff.block h ∈ p := by
  unfold diskOf; rw [foldl_blocks]; simp

theorem mem_recover_iff {U : List Entry} (hU : HashDet U) {d : Disk} {D : Log} (hsub : ∀ e ∈ D.entries, e ∈ U)
    (hC : Closed D) (hblk : ∀ e ∈ D.entries, e.hash ∈ d.blocks)
    (hroots : ∀ h ∈ d.lheads ++ d.rheads, has D.entries h = true)
    (hcov : CoveredBy D (d.lheads ++ d.rheads)) : ∀ x, x ∈ recover U d ↔ has D.entries x = true := by
  have helig : ∀ n, has D.entries n = true → Eligible U d.blocks n := fun n hn => by
    obtain ⟨z, hz, rfl⟩ := (has_iff _ _).mp hn
    exact ⟨hblk z hz, z, get_of_mem hU (fun _ h => h) (hsub z hz)⟩
  -- inside `D` every link is eligible, so what is recovered is closed along the paths of `D`
  have hR : NextClosed D.entries (· ∈ recover U d) := fun p hp hh n hn =>
    (recover_complete U d).2 _ hh p (get_of_mem hU (fun _ h => h) (hsub p hp)) n hn (helig n (hC p hp n hn))
  intro x
  constructor
  · exact fun hx => (recover_sound (hC.nextClosed hU hsub) hroots x hx).1
  · intro hx
    obtain ⟨y, hy, rfl⟩ := (has_iff _ _).mp hx
    obtain ⟨r, hr, hd⟩ := hcov y hy
    exact hd.closed hR (fun _ h => h) ((recover_complete U d).1 r hr (helig r (hroots r hr)))

theorem recover_durable {U : List Entry} (hU : HashDet U) {p : List Eff} {D : Log}
    (h : Durable U p D) : ∀ x, x ∈ recover U (diskOf p) ↔ has D.entries x = true :=
  mem_recover_iff hU h.good.inv.sub h.closed h.blocks h.roots h.covers

theorem mem_snoc {α : Type} {a e : α} {p : List α} : a ∈ p ++ [e] ↔ a ∈ p ∨ a = e := by
  rw [List.mem_append, List.mem_singleton]

theorem Durable.block {U : List Entry} {p : List Eff} {D : Log} (h : Durable U p D) (x : Nat) :
    Durable U (p ++ [.block x]) D :=
  ⟨h.good, h.closed, fun e he => by rw [diskOf_snoc]; exact List.mem_cons_of_mem _ (h.blocks e he),
    by rw [diskOf_snoc]; exact h.roots, by rw [diskOf_snoc]; exact h.covers,
    fun a ha => h.acks a ((mem_snoc.mp ha).resolve_right nofun),
    fun xs hm => h.repl xs ((mem_snoc.mp hm).resolve_right nofun)⟩

theorem Durable.ack {U : List Entry} {p : List Eff} {D : Log} (h : Durable U p D) (x : Nat)
    (hx : has D.entries x = true) : Durable U (p ++ [.ack x]) D :=
  ⟨h.good, h.closed, by rw [diskOf_snoc]; exact h.blocks, by rw [diskOf_snoc]; exact h.roots,
    by rw [diskOf_snoc]; exact h.covers,
    fun a ha => (mem_snoc.mp ha).elim (h.acks a) (fun he => by cases he; exact hx),
    fun xs hm => h.repl xs ((mem_snoc.mp hm).resolve_right nofun)⟩

theorem Durable.replicated {U : List Entry} {p : List Eff} {D : Log} (h : Durable U p D)
    (xs : List Nat) (hx : ∀ x ∈ xs, has D.entries x = true) :
    Durable U (p ++ [.replicated xs]) D :=
  ⟨h.good, h.closed, by rw [diskOf_snoc]; exact h.blocks, by rw [diskOf_snoc]; exact h.roots,
    by rw [diskOf_snoc]; exact h.covers,
    fun a ha => h.acks a ((mem_snoc.mp ha).resolve_right nofun),
    fun ys hm => (mem_snoc.mp hm).elim (h.repl ys) (fun he => by cases he; exact hx)⟩

/-- what a write of the cached heads `hs` needs for the larger log `D'` to become the durable one after the effects `p` -/
structure CacheStep (U : List Entry) (p : List Eff) (D D' : Log) (hs : List Nat) : Prop where
  sub    : ∀ e ∈ D.entries, e ∈ D'.entries
  good   : Good U D'
  closed : Closed D'
  blocks : ∀ e ∈ D'.entries, e.hash ∈ (diskOf p).blocks
  heads  : ∀ h ∈ hs, has D'.entries h = true
  covers : CoveredBy D' hs

/-- a cache write is the commit point: the durable log becomes the larger one -/
theorem Durable.cache {U : List Entry} {p : List Eff} {D D' : Log} {hs : List Nat} {c : Eff}
    (h : Durable U p D) (g : CacheStep U p D D' hs) (hc : c = .cacheLocal hs ∨ c = .cacheRemote hs) :
    Durable U (p ++ [c]) D' := by
  have hold := fun x hx => has_mono g.sub (h.roots x hx)
  refine ⟨g.good, g.closed, ?_, ?_, ?_, fun a ha => has_mono g.sub (h.acks a ?_),
    fun xs hm x hx => has_mono g.sub (h.repl xs ?_ x hx)⟩
  · rw [diskOf_snoc]; rcases hc with rfl | rfl <;> exact g.blocks
  · -- the heads of the key that is written are held by `g.heads`, those of the other key were held before
    rw [diskOf_snoc]
    intro x hx
    rcases hc with rfl | rfl
    · exact (List.mem_append.mp hx).elim (g.heads x) fun hx => hold x (List.mem_append_right _ hx)
    · exact (List.mem_append.mp hx).elim (fun hx => hold x (List.mem_append_left _ hx)) (g.heads x)
  · rw [diskOf_snoc]
    rcases hc with rfl | rfl
    · exact g.covers.mono_heads (fun x hx => List.mem_append_left _ hx)
    · exact g.covers.mono_heads (fun x hx => List.mem_append_right _ hx)
  · exact (mem_snoc.mp ha).resolve_right (by rcases hc with rfl | rfl <;> nofun)
  · exact (mem_snoc.mp hm).resolve_right (by rcases hc with rfl | rfl <;> nofun)

theorem durable_nil (U : List Entry) (id : Nat) : Durable U [] (Log.empty id) :=
  ⟨good_empty U id, fun _ he => (by cases he), fun _ he => (by cases he), fun _ hh => (by cases hh),
    coveredBy_empty id _, fun _ hh => (by cases hh), fun _ hh => (by cases hh)⟩

end Orbit
