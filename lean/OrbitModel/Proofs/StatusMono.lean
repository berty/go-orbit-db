import OrbitModel.Model.Snapshot
/-!
# Replication status: never regresses; equals the log length at rest, also after `LoadFromSnapshot`   (C19)

The two update functions are a maximum of three and a clamp; every event, of either kind, leaves the
maximum at `max s.max (max len arg)`. Everything below follows from these two equations by the order
laws of `max` and `min`.
-/
namespace Orbit

/-- the status-affecting events of the store main loop and write path -/
inductive StEv where
  | status  (len arg : Int)     -- recalculateReplicationStatus(arg) while the log has `len` entries
  | maxOnly (len arg : Int)     -- recalculateReplicationMax(arg) (EventLoadAdded)
deriving Repr

def Status.ev (s : Status) : StEv → Status
  | .status len arg => recalcStatus len s arg
  | .maxOnly len arg => recalcMax len s arg

def Status.run (s : Status) (evs : List StEv) : Status := evs.foldl Status.ev s

def StEv.len : StEv → Int | .status l _ => l | .maxOnly l _ => l
def StEv.arg : StEv → Int | .status _ a => a | .maxOnly _ a => a

def Status.Ok (s : Status) : Prop := s.progress ≤ s.max

theorem ite_gt_eq_max (a b : Int) : (if a > b then a else b) = max a b := by omega

theorem ite_lt_eq_min (a b : Int) : (if a < b then a else b) = min a b := by omega

theorem recalcMax_max (len : Int) (s : Status) (arg : Int) :
    (recalcMax len s arg).max = max s.max (max len arg) := by
  simp only [recalcMax, ite_gt_eq_max]

theorem recalcProgress_progress (len : Int) (s : Status) :
    (recalcProgress len s).progress = max len (min (s.progress + 1) s.max) := by
  simp only [recalcProgress, ite_gt_eq_max, ite_lt_eq_min]

/-- the maximum after an event of either kind, as a least upper bound (a `status` event recalculates the progress
after the maximum, and that leaves the maximum alone: both cases are `recalcMax_max`) -/
theorem ev_max_le (s : Status) (e : StEv) (B : Int) :
    (s.ev e).max ≤ B ↔ s.max ≤ B ∧ e.len ≤ B ∧ e.arg ≤ B := by
  cases e <;> exact (recalcMax_max .. ▸ Int.max_le.trans (and_congr_right fun _ => Int.max_le))

theorem le_ev_max (s : Status) (e : StEv) :
    s.max ≤ (s.ev e).max ∧ e.len ≤ (s.ev e).max ∧ e.arg ≤ (s.ev e).max :=
  (ev_max_le s e _).1 (Int.le_refl _)

theorem status_progress (s : Status) (len arg : Int) :
    (s.ev (.status len arg)).progress = max len (min (s.progress + 1) (s.ev (.status len arg)).max) :=
  recalcProgress_progress ..

theorem ev_mono (s : Status) (hok : s.Ok) (e : StEv) :
    (s.ev e).Ok ∧ s.progress ≤ (s.ev e).progress ∧ s.max ≤ (s.ev e).max := by
  have hm := le_ev_max s e
  unfold Status.Ok at *
  cases e with
  | status len arg =>
    rw [status_progress]
    exact ⟨Int.max_le.2 ⟨hm.2.1, Int.min_le_right ..⟩,
      Int.le_trans (Int.le_min.2 ⟨Int.le_add_one (Int.le_refl _), Int.le_trans hok hm.1⟩)
        (Int.le_max_right ..), hm.1⟩
  | maxOnly len arg => exact ⟨Int.le_trans hok hm.1, Int.le_refl _, hm.1⟩

theorem Status.run_append (s : Status) (es fs : List StEv) : s.run (es ++ fs) = (s.run es).run fs :=
  List.foldl_append ..

theorem run_mono (s : Status) (hok : s.Ok) (evs : List StEv) :
    (s.run evs).Ok ∧ s.progress ≤ (s.run evs).progress ∧ s.max ≤ (s.run evs).max := by
  induction evs generalizing s with
  | nil => exact ⟨hok, Int.le_refl _, Int.le_refl _⟩
  | cons e es ih =>
    have h1 := ev_mono s hok e
    have h2 := ih (s.ev e) h1.1
    exact ⟨h2.1, Int.le_trans h1.2.1 h2.2.1, Int.le_trans h1.2.2 h2.2.2⟩

theorem zero_ok : ({} : Status).Ok := Int.le_refl 0

theorem run_max_le (s : Status) (B : Int) (hs : s.max ≤ B) (evs : List StEv)
    (hb : ∀ e ∈ evs, e.len ≤ B ∧ e.arg ≤ B) : (s.run evs).max ≤ B := by
  induction evs generalizing s with
  | nil => exact hs
  | cons e es ih =>
    refine ih _ ?_ (fun e' he' => hb e' (List.mem_cons_of_mem _ he'))
    exact (ev_max_le s e B).2 ⟨hs, hb e List.mem_cons_self⟩

/-- `hb`, `harg` are where the bound on clock times comes in: `time_le_length`, for a complete `ClockTight` log -/
theorem rest_eq_len (evs : List StEv) (n arg : Int) (hn : 0 ≤ n)
    (hb : ∀ e ∈ evs, e.len ≤ n ∧ e.arg ≤ n) (harg : arg ≤ n) :
    (({} : Status).run (evs ++ [.status n arg])).progress = n ∧
    (({} : Status).run (evs ++ [.status n arg])).max = n := by
  have hmax := run_max_le {} n hn evs hb
  rw [Status.run_append]
  generalize ({} : Status).run evs = s at hmax
  have hm : (s.ev (.status n arg)).max = n :=
    Int.le_antisymm ((ev_max_le s _ n).2 ⟨hmax, Int.le_refl n, harg⟩) (le_ev_max s _).2.1
  have hp := status_progress s n arg
  rw [hm] at hp
  exact ⟨hp.trans (Int.max_eq_left (Int.min_le_right ..)), hm⟩

end Orbit

namespace Orbit.Snap

theorem foldl_clock_le (es : List Entry) (m n : Int) :
    es.foldl (fun m e => if m < (e.time : Int) then (e.time : Int) else m) m ≤ n ↔
      m ≤ n ∧ ∀ e ∈ es, (e.time : Int) ≤ n := by
  induction es generalizing m with
  | nil => simp
  | cons a t ih =>
    rw [List.foldl_cons, ih, List.forall_mem_cons, ← and_assoc, ite_gt_eq_max, Int.max_le,
      and_comm (b := m ≤ n)]

theorem maxClockOf_le (es : List Entry) (n : Int) :
    maxClockOf es ≤ n ↔ 0 ≤ n ∧ ∀ e ∈ es, (e.time : Int) ≤ n := foldl_clock_le es 0 n

theorem maxClockOf_ge (es : List Entry) : ∀ e ∈ es, (e.time : Int) ≤ maxClockOf es :=
  ((maxClockOf_le es _).1 (Int.le_refl _)).2

/-- `LoadFromSnapshot` on a fresh store is a history of two status events: every theorem about
histories above applies to it -/
theorem statusAfterLoad_eq_run (counted : List Entry) (L : Log) :
    statusAfterLoad counted L = ({} : Status).run
      ([.maxOnly 0 (maxClockOf counted)] ++ [.status L.entries.length (maxClockOf counted)]) := rfl

/-- entry `n` of the chain `e1 ← e2 ← e3 ← …` -/
def chainEntry (n : Nat) : Entry :=
  { hash := n, time := n, next := if n ≤ 1 then [] else [n - 1], logId := 1, cid := 0 }

end Orbit.Snap
