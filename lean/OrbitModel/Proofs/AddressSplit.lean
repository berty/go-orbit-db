import OrbitModel.Proofs.AddressClean
/-!
# Strings and segments: `strings.Split`/`strings.Join` on "/" and `address.Parse` of a rendered path  (C14)

`segments` splits the list of characters, so the core lemmas on `List.splitOn` apply; `parse0` of a
rendered clean path is characterised in both directions (`parse_render_root`, `parse_render`).
-/
namespace Orbit.Path

def NoSlash (s : String) : Prop := '/' ∉ s.toList

instance (s : String) : Decidable (NoSlash s) := by unfold NoSlash; exact inferInstance

/-- a path segment in the proper sense: kept by `path.Clean`, not cut by `strings.Split` -/
def Seg (s : String) : Prop := Plain s ∧ NoSlash s

instance (s : String) : Decidable (Seg s) := by unfold Seg; exact inferInstance

theorem splitOn_noSep (c : Char) (l : List Char) : ∀ p ∈ l.splitOn c, c ∉ p := by
  induction l with
  | nil => simp [List.splitOn_nil]
  | cons x xs ih =>
    rw [List.splitOn_cons_eq_if_modifyHead]
    split
    · simp only [List.mem_cons, forall_eq_or_imp]; exact ⟨List.not_mem_nil, ih⟩
    · rename_i hx
      obtain ⟨p0, ps, hsp⟩ := List.exists_cons_of_ne_nil (List.splitOn_ne_nil c xs)
      rw [hsp] at ih ⊢
      simp only [List.modifyHead_cons, List.mem_cons, forall_eq_or_imp] at ih ⊢
      exact ⟨fun h => h.elim (fun h => hx (h ▸ BEq.refl _)) ih.1, ih.2⟩

theorem segments_noSlash (s : String) : ∀ x ∈ segments s, NoSlash x := by
  intro x hx
  unfold segments at hx
  obtain ⟨p, hp, rfl⟩ := List.mem_map.mp hx
  unfold NoSlash
  rw [String.toList_ofList]
  exact splitOn_noSep '/' _ p hp

theorem segments_ne_nil (s : String) : segments s ≠ [] := by
  unfold segments
  intro h
  exact List.splitOn_ne_nil '/' s.toList (List.map_eq_nil_iff.mp h)

theorem segments_empty : segments "" = [""] := by decide

theorem segments_intercalate (l : List String) (h : ∀ x ∈ l, NoSlash x) :
    segments ("/".intercalate l) = if l = [] then [""] else l := by
  by_cases hl : l = []
  · subst hl; exact segments_empty
  rw [if_neg hl]
  unfold segments
  rw [String.toList_intercalate, show "/".toList = ['/'] from rfl, List.splitOn_intercalate]
  · rw [List.map_map]
    have : (String.ofList ∘ String.toList) = id := by funext s; simp
    rw [this, List.map_id]
  · intro p hp
    obtain ⟨s, hs, rfl⟩ := List.mem_map.mp hp
    exact h s hs
  · intro hm; exact hl (List.map_eq_nil_iff.mp hm)

theorem segments_cons {p : String} (hp : NoSlash p) (t : String) :
    segments (p ++ "/" ++ t) = p :: segments t := by
  unfold segments
  rw [String.toList_append, String.toList_append, show "/".toList = ['/'] from rfl, List.append_assoc,
    List.singleton_append, List.splitOn_append_cons_self_of_not_mem hp]
  simp

theorem segments_slash_append (t : String) : segments ("/" ++ t) = "" :: segments t :=
  segments_cons (p := "") (by decide) t

theorem segments_orbitdb (t : String) :
    segments ("/orbitdb/" ++ t) = "" :: "orbitdb" :: segments t := by
  have h : "/orbitdb/" = "" ++ "/" ++ ("orbitdb" ++ "/") := by decide +kernel
  rw [h, String.append_assoc, segments_cons (by decide), segments_cons (by decide +kernel)]

theorem hasPrefix_iff (p s : String) : hasPrefix p s = true ↔ p.toList <+: s.toList := by
  unfold hasPrefix; exact List.isPrefixOf_iff_prefix

theorem hasPrefix_eq_startsWith (p s : String) : hasPrefix p s = s.startsWith p := by
  rw [Bool.eq_iff_iff, hasPrefix_iff, String.startsWith_string_iff]

theorem segments_eq_split (s : String) : segments s = (s.split '/').toList.map (·.copy) := by
  unfold segments; rw [String.toList_split_char]

/-- `strings.TrimPrefix(s, p)` when the prefix is there -/
theorem strip_prefix {p s : String} (h : hasPrefix p s = true) : s = p ++ (s.drop p.length).copy := by
  obtain ⟨t, ht⟩ := (hasPrefix_iff _ _).mp h
  apply String.toList_inj.mp
  rw [String.toList_append, String.toList_copy_drop, ← ht, ← String.length_toList, List.drop_left]

theorem hasPrefix_append (p t : String) : hasPrefix p (p ++ t) = true := by
  rw [hasPrefix_iff, String.toList_append]; exact List.prefix_append _ _

theorem drop_append (p t : String) : ((p ++ t).drop p.length).copy = t := by
  apply String.toList_inj.mp
  rw [String.toList_copy_drop, String.toList_append, ← String.length_toList, List.drop_left]

theorem parse_orbitdb (isCid : String → Bool) {t r : String} {rest : List String}
    (h : segments t = r :: rest) :
    parse0 isCid ("/orbitdb/" ++ t) =
      if isCid r then some { root := r, path := "/".intercalate rest } else none := by
  simp only [parse0, hasPrefix_append, if_pos, drop_append, h]

theorem render_orbitdb (l : List String) (hne : l ≠ []) :
    render ("orbitdb" :: l) = "/orbitdb/" ++ "/".intercalate l := by
  unfold render
  rw [String.intercalate_cons_of_ne_nil hne, ← String.append_assoc, ← String.append_assoc]
  rfl

theorem parse_render_root (isCid : String → Bool) (r : String) (rest : List String)
    (h : ∀ x ∈ r :: rest, NoSlash x) (hc : isCid r = true) :
    parse0 isCid (render ("orbitdb" :: r :: rest)) = some { root := r, path := "/".intercalate rest } := by
  have hseg : segments ("/".intercalate (r :: rest)) = r :: rest :=
    (segments_intercalate _ h).trans (if_neg (List.cons_ne_nil _ _))
  rw [render_orbitdb _ (List.cons_ne_nil _ _), parse_orbitdb isCid hseg, if_pos hc]

theorem parse_render (isCid : String → Bool) (cl : List String) (h : ∀ x ∈ cl, NoSlash x) (a : Addr)
    (hp : parse0 isCid (render cl) = some a) :
    a.root = "" ∨ ∃ rest, cl = "orbitdb" :: a.root :: rest ∧ a.path = "/".intercalate rest ∧
      isCid a.root = true := by
  have hseg : segments (render cl) = "" :: segments ("/".intercalate cl) := segments_slash_append _
  by_cases hpre : hasPrefix "/orbitdb/" (render cl) = true
  · -- `render cl = "/orbitdb/" ++ t`: `cl` is `orbitdb` followed by the segments of `t`
    right
    have hs := strip_prefix hpre
    generalize (String.drop (render cl) "/orbitdb/".length).copy = t at hs
    obtain ⟨r, rest, hst⟩ := List.exists_cons_of_ne_nil (segments_ne_nil t)
    rw [hs, segments_orbitdb, hst, segments_intercalate cl h] at hseg
    rw [hs, parse_orbitdb isCid hst] at hp
    have hcl := (List.cons.inj hseg).2
    split at hcl
    · exact absurd (List.cons.inj hcl).1 (by simp)
    · split at hp
      · rename_i hc
        cases hp
        exact ⟨rest, hcl.symm, rfl, hc⟩
      · cases hp
  · -- nothing is stripped: the first segment, which `parse0` takes for the root, is the empty one
    left
    simp only [parse0, if_neg hpre, hseg] at hp
    split at hp
    · cases hp; rfl
    · cases hp

end Orbit.Path
