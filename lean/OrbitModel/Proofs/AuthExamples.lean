import OrbitModel.Proofs.AuthBatch
/-!
# C03 / C04 / C10: pinned-tree witnesses and non-vacuity

Two writers (identities 1 and 2) and an attacker (identity 7, not in the write list), database 9.
-/
namespace Orbit.AuthExample

def acl : Acl := { ids := [1, 2] }
def ca : Entry → Bool := acl.canAppend

/-- writer 1's first entry -/
def a : Entry := { hash := 1, logId := 9, time := 1, cid := 0, next := [], ident := 1, key := 1 }
/-- writer 2, **authorised but lying about its clock**: links to `a` (time 1) yet claims time 0 -/
def b : Entry := { hash := 2, logId := 9, time := 0, cid := 1, next := [1], ident := 2, key := 2 }
/-- writer 1's second entry, concurrent with `b` -/
def c : Entry := { hash := 3, logId := 9, time := 2, cid := 0, next := [1], ident := 1, key := 1 }
/-- the attacker under its own identity -/
def x1 : Entry := { hash := 11, logId := 9, time := 5, cid := 2, next := [1], ident := 7, key := 7 }
/-- the attacker naming writer 1 but signing with its own key, identity block not writer 1's (F3) -/
def x2 : Entry := { hash := 12, logId := 9, time := 5, cid := 2, next := [1], ident := 1, key := 7,
                    identOk := false }
/-- writer 1's identity, signature does not verify -/
def x3 : Entry := { hash := 13, logId := 9, time := 5, cid := 0, next := [1], ident := 1, key := 1,
                    sigOk := false }
/-- a valid entry of writer 1 written for database 8 -/
def x4 : Entry := { hash := 14, logId := 8, time := 5, cid := 0, next := [], ident := 1, key := 1 }
/-- writer 1's entry, content does not hash to the claimed address -/
def x5 : Entry := { hash := 15, logId := 9, time := 5, cid := 0, next := [1], ident := 1, key := 1,
                    hashOk := false }

def U : List Entry := [a, b, c, x1, x2, x3, x4, x5]

theorem hU : HashDet U := by unfold HashDet; decide +kernel

/-- the universe is *not* an honest one: `b` forges its clock, so the order-based theorems of
`LogValues`/`LogReach` do not apply — the ones of `Auth` do -/
example : ¬ ClockMono U := by unfold ClockMono; decide

/-- **F3**: the pinned `CanAppend` looks only at the identity id named by the entry, so it accepts
the attacker's entry naming writer 1; the repaired one rejects it -/
example : acl.canAppendPinned x2 = true ∧ acl.canAppend x2 = false := by decide

example : acl.canAppendPinned x1 = false ∧ acl.canAppend x1 = false := by decide

/-- **F4** (foreign head), at the `Log` level: `joinCore` of a log whose entry carries another log
id puts it into `heads` but not into `entries` — heads ⊄ entries, `Inv` is broken.  This is why
`AStep.joinOk` carries the log-id hypothesis (the repaired replicator's filter). -/
example : (joinCore (Log.empty 9) [x4] [x4] 9).heads = [x4] ∧
          (joinCore (Log.empty 9) [x4] [x4] 9).entries = [] := by decide

/-- the checked `join` does not catch it either: nothing is a *new item*, so nothing is verified -/
example : ∃ L', join ca (Log.empty 9) [x4] [x4] 9 = .ok L' ∧ L'.heads = [x4] ∧ L'.entries = [] :=
  ⟨_, rfl, by decide⟩

/-- **F6**: with the pinned `replicationLoadComplete` a rejected first log makes the valid second
one unreachable; the repaired one merges it -/
example : (joinAllPinned acl (Log.empty 9) [([x1], [x1]), ([a], [a])]).1.entries = [] ∧
          (joinAllPinned acl (Log.empty 9) [([x1], [x1]), ([a], [a])]).2 = false ∧
          (joinAll acl (Log.empty 9) [([x1], [x1]), ([a], [a])]).entries = [a] := by decide +kernel

def okOr (x : Except Err Log) (d : Log) : Log := match x with | .ok l => l | .error _ => d

def E  : Log := Log.empty 9
def P1 : Log := (append ca E (fun _ _ => a)).1
/-- the attacker's local write is denied -/
def P2 : Log := (append ca P1 (fun _ _ => x1)).1
def P3 : Log := (append ca P2 (fun _ _ => c)).1
/-- writer 2's log (with the forged clock) arrives and is merged -/
def P4 : Log := okOr (join ca P3 [a, b] [b] 9) P3

/-- the attacker's logs, each rejected: own identity; stolen identity; bad signature -/
example : join ca P4 [x1] [x1] 9 = .error .denied ∧ join ca P4 [x2] [x2] 9 = .error .denied ∧
          join ca P4 [x3] [x3] 9 = .error .sigFail := ⟨rfl, rfl, rfl⟩

theorem reach_P1 : AReachable ca U 9 P1 :=
  .step .empty (.appendOk E (fun _ _ => a) (by decide) (by decide) (by decide) (by decide)
    (by decide) (by decide) (by decide) (by decide))

theorem reach_P2 : AReachable ca U 9 P2 :=
  .step reach_P1 (.appendDenied P1 (fun _ _ => x1) (by decide))

theorem reach_P3 : AReachable ca U 9 P3 :=
  .step reach_P2 (.appendOk P2 (fun _ _ => c) (by decide) (by decide) (by decide) (by decide)
    (by decide) (by decide) (by decide) (by decide))

theorem reach_P4 : AReachable ca U 9 P4 :=
  .step reach_P3 (.joinOk P3 P4 [a, b] [b] 9 ⟨by decide, by decide⟩ (by decide) rfl)

/-- the three rejected joins are steps too (state unchanged) -/
theorem reach_P4' : AReachable ca U 9 P4 :=
  .step (.step (.step reach_P4
    (.joinFail P4 [x1] [x1] 9 .denied rfl))
    (.joinFail P4 [x2] [x2] 9 .denied rfl))
    (.joinFail P4 [x3] [x3] 9 .sigFail rfl)

example : ∀ x ∈ values P4, (acl.wildcard = true ∨ x.ident ∈ acl.ids) ∧ x.key = x.ident ∧
    x.identOk = true ∧ x.sigOk = true ∧ x.logId = P4.id :=
  fun x hx => C03_traverse_authorised hU reach_P4' _ x (List.mem_reverse.mp hx)

example : x2 ∉ P4.entries ∧ x2 ∉ values P4 :=
  C03_unauthorised_absent hU reach_P4' x2 (Or.inr (Or.inl (by decide)))

example : Inv U P4 ∧ P4.entries.Nodup ∧ P4.id = 9 :=
  ⟨areachable_inv hU reach_P4', areachable_nodup hU reach_P4', areachable_id reach_P4'⟩

/-- the forged clock puts `b` *before* the entry `a` it links to: the order is wrong, the membership is right -/
example : P4.entries = [a, c, b] ∧ values P4 = [b, a, c] ∧ P2.entries = P1.entries := by decide +kernel

example : (append ca P1 (fun _ _ => x1)).2 = .error .denied ∧ values P2 = values P1 := by
  have h := append_denied (ca := ca) (L := P1) (mk := fun _ _ => x1) (by decide)
  exact ⟨by rw [h], by unfold P2; rw [h]; rfl⟩

def batch : List (OMap × OMap) := [([x1], [x1]), ([b], [b]), ([x3], [x3]), ([x4], [x4]), ([c], [c])]

/-- `joinAll_accepts` applies to `b` and `c`, surrounded by rejected logs -/
example : has (joinAll acl P1 batch).entries b.hash = true :=
  joinAll_accepts acl batch P1 b (by decide) (by decide) (by decide)

example : has (joinAll acl P1 batch).entries c.hash = true :=
  joinAll_accepts acl batch P1 c (by decide) (by decide) (by decide)

/-- the valid entries are merged, the three invalid ones are not; the pinned loop stops at the first
rejected log with nothing merged -/
example : (joinAll acl P1 batch).entries = [a, b, c] ∧
          (joinAllPinned acl P1 batch).1.entries = [a] := by decide +kernel

example : ∀ e ∈ P1.entries, e ∈ (joinAll acl P1 batch).entries := (joinAll_extends acl batch P1).mono

/-- a wrongly addressed head of a writer aborts the `Sync`; a non-writer's head is skipped (and
dropped later by the join) -/
example : syncPrecheck0 acl [a, x5] = .hashMismatch ∧ syncPrecheck0 acl [a, x1, b] = .ok := by decide

example : ∀ h ∈ [a, x1, b], acl.canAppend h = true → h.hashOk = true :=
  C04_hash acl [a, x1, b] (by decide)

end Orbit.AuthExample
