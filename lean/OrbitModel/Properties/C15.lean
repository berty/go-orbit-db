import OrbitModel.Proofs.LoadLimit
import OrbitModel.Proofs.LoadNoPanic
import OrbitModel.Proofs.LoadChain
import OrbitModel.Proofs.LoadExamples
import OrbitModel.Proofs.GenEqLoad
import OrbitModel.Proofs.LoadRejoin
import OrbitModel.Generated.GenLoadJoin
import OrbitModel.Model.Order
import OrbitModel.Proofs.Refetch
/-!
# C15 — `Load(n)` shows the newest `min(n, total)` entries, in order; `n ≤ 0` loads all; never panics

`Model/Store.lean` `loadAmount`, `loadHead` (`Join`, then the trim once the listing is longer than the amount;
`loadHead0`: the clamp before `Join`, before the F30 repair), `Store.load`; `Model/Log.lean`
`trim` (the slice inside `Join(size)`, panicking when `size` exceeds the length). The bounded
Fetcher of go-ipfs-log is a parameter `fetch` (contract: it returns, as a set, a suffix of the chain
containing at least the newest `min n T`; checked against the real fetcher by the limit family).

Proved for every chain length and every limit: the single-writer statement (a chain, one cached
head, fresh store). For logs with several heads the general statement is **partial**: one head is
proved panic-free, and the listing after every head is checked against the L1 predicate
(`C15/count`, `C15/newest`, `C15/order`) on the real store by the limit family; `load_fork_all_limits`
is a checked instance, not a proof.
-/
namespace Orbit.C15

/-- the effective limit: `n ≤ 0` falls back to `maxHistory`, and a non-positive result means "all" -/
theorem effective_limit (amount : Int) (mh : Option Int) :
    (loadAmount amount mh = -1 ↔ effAmount amount mh ≤ 0) ∧
    (0 < effAmount amount mh → loadAmount amount mh = effAmount amount mh) := by
  rw [loadAmount_eq]; split <;> omega

/-- the normalisation at the top of `Load` in the Go text of this run is the one of the theorem -/
theorem limit_normalisation_tied_to_go_text (amount : Int) (mh : Option Int) :
    Gen.genLoadAmount mh.isSome (mh.getD 0) amount = loadAmount amount mh := gen_loadAmount amount mh

/-- `Join(size)` panics exactly when asked to keep more than there is — what `Load` must not ask for -/
theorem trim_panics_iff (L : Log) (size : Nat) : trim L size = .error .panic ↔ size > (values L).length := by
  rw [trim_eq]; split <;> simp [*]

/-- a successful trim keeps the newest `size` entries, in log order -/
theorem trim_keeps_newest {U : List Entry} (hU : HashDet U) (hT : TieFree U) (hM : ClockMono U) {L L' : Log}
    {size : Nat} (hG : Good U L) (h : trim L size = .ok L') :
    size ≤ (values L).length ∧ values L' = (values L).drop ((values L).length - size) :=
  let r := trim_spec hU hT hM hG.inv hG.nodup h
  ⟨r.1, r.2.1⟩

/-- **C15, single writer**: for every chain `c` (oldest first), every limit `n` given with the call (no
maximum-history option; with it, in terms of the effective limit: `load_single_head_chain_eff`), a fresh
store with one cached head (which `Store.load`, unlike `loadChecked`, does not ask to have come back), and a
fetcher returning a suffix of the chain that contains at least the newest `min n T` entries (everything when
`n ≤ 0`): `Load(n)` succeeds and lists exactly the newest `min n T` entries of the chain, oldest first — the
whole chain when `n ≤ 0`. -/
theorem load_lists_newest_n_of_a_chain {id : Nat} {c : List Entry} (hc : IsChain id c) (acl : Acl)
    (hacc : ∀ e ∈ c, acceptable acl.canAppend e = true)
    (s : Store) (hd : Nat) (hlog : s.log = Log.empty id) (hl : s.localHeads = some [hd])
    (hr : s.remoteHeads = none) (fetch : Nat → OMap) (n : Int) (j : Nat)
    (hf : ∀ e, e ∈ fetch hd ↔ e ∈ c.drop j)
    (hj : if n ≤ 0 then j = 0 else j ≤ c.length - min n.toNat c.length) :
    ∃ s', Store.load acl s fetch n = .ok s' ∧
      values s'.log = if n ≤ 0 then c else c.drop (c.length - min n.toNat c.length) :=
  load_single_head_chain hc acl hacc s hd hlog hl hr fetch n j hf hj

/-- **no limit value makes loading one head panic**: for EVERY log the store may hold — closed or
with holes, fully or partially loaded, whatever its heads and link index — every fetched log and every
amount (after the `fix:` commit, finding F30: the merge asks for no trim; the trim is only asked for
once the listing is known to be longer than the amount). Before that repair (`loadHead0_no_panic`) the
statement needs `Closed L ∨ amount ≤ |L|`, and the excluded case is real
(`estimated_trim_panicked_on_a_log_with_holes_before_the_fix`). -/
theorem load_one_head_never_panics (acl : Acl) (fetch : Nat → OMap) (amount : Int) (L : Log) (h : Nat) :
    loadHead acl fetch amount L h ≠ .error .panic := by
  rw [loadHead, loadHead1_eq]
  split
  · next J _ =>
    obtain ⟨L', h'⟩ := cut_ok amount J
    rw [h']; nofun
  · nofun

/-- the model writes `Load`'s second `Join(l, amount)` as a trim; written out exactly (`loadHeadExact`:
`Join` called twice) it lists the same entries and never panics, for every log that satisfies the
log invariant (every log reachable by appends and honest joins) and every fetched log -/
theorem the_second_join_of_load_is_a_trim {U : List Entry} (hU : HashDet U) (hT : TieFree U) (hM : ClockMono U)
    (acl : Acl) (fetch : Nat → OMap) (amount : Int) {L : Log} (h : Nat) (hG : Good U L)
    (hF : Fetched U L (fetch h)) :
    loadHeadExact acl (missingFetch L fetch) amount L h ≠ .error .panic ∧
    ∀ r, loadHeadExact acl (missingFetch L fetch) amount L h = .ok r →
      ∃ r', loadHead acl fetch amount L h = .ok r' ∧ values r = values r' :=
  loadHeadExact_is_loadHead hU hT hM acl (missingFetch L fetch) amount h hG (fetched_missing hF)

/-- **"load more"**: an unlimited `Load` of one cached head into ANY log that satisfies the log
invariant — empty, loaded with a limit, written to or replicated into since — lists exactly what the
log held plus everything the fetcher brought for that head (after the `fix:` commit, finding F36:
only the entries the log does not hold are handed to `Join`, which does not walk through held ones) -/
theorem load_more_lists_everything_fetched {U : List Entry} (hU : HashDet U) (hT : TieFree U) (hM : ClockMono U)
    (acl : Acl) (fetch : Nat → OMap) {L : Log} (h : Nat) (hG : Good U L)
    (hF : Fetched U L (fetch h)) (hacc : ∀ e ∈ fetch h, acceptable acl.canAppend e = true) :
    ∃ L', loadHead acl fetch (-1) L h = .ok L' ∧
      ∀ e, e ∈ values L' ↔ e ∈ L.entries ∨ e ∈ fetch h := by
  obtain ⟨J, hGJ, hent, L', hl, _, hv⟩ := loadHead_spec hU hT hM acl fetch (-1) h hG hF hacc
  refine ⟨L', hl, fun e => ?_⟩
  rw [hv, if_neg (by decide), (values_sorted hU hT hM J hGJ.inv hGJ.nodup).2, hent]

/-- Refutation witness for the tree before that repair: the store that holds the two newest entries of
the 4-chain (after `Load(2)`) and is asked to `Load(-1)`, or `Load(3)`: `Join`, handed the whole
fetched log, stopped at the held head and merged nothing — 2 entries listed; with the repair 4, and 3 (replayed
on the real store by `liveload` steps in the limit family: corpus/C15/f36) -/
theorem load_more_loaded_nothing_below_what_was_held_before_the_fix :
    open LoadExample in
    lst (Except.ok top2) = .ok [3, 4] ∧
    lst (loadHead1 acl (fun _ => [c4, c3, c2, c1]) (-1) top2 4) = .ok [3, 4] ∧
    lst (loadHead acl (fun _ => [c4, c3, c2, c1]) (-1) top2 4) = .ok [1, 2, 3, 4] ∧
    lst (loadHead1 acl (fun _ => [c4, c3, c2]) 3 top2 4) = .ok [3, 4] ∧
    lst (loadHead acl (fun _ => [c4, c3, c2]) 3 top2 4) = .ok [2, 3, 4] ∧
    lst (loadHead acl (fun _ => [c4, c3]) 2 top2 4) = .ok [3, 4] := by
  decide +kernel

/-- Refutation witness for the tree before that repair: a store that holds `c3` without its parents
(a log with a hole) and is asked to `Load(3)` estimated 4 merged entries, asked `Join` to keep 3, and
`Join` — which stops at the held `c3` — listed 2: `tmp[len(tmp)-3:]` panicked. Reproduced on the real
store by a `Load(n)` on an open, partially loaded store (corpus/C15/f30). -/
theorem estimated_trim_panicked_on_a_log_with_holes_before_the_fix :
    LoadExample.isPanic (loadHead0 LoadExample.acl (fun _ => [LoadExample.c4, LoadExample.c3, LoadExample.c2, LoadExample.c1]) 3 LoadExample.held 4) = true ∧
    loadHead LoadExample.acl (fun _ => [LoadExample.c4, LoadExample.c3, LoadExample.c2, LoadExample.c1]) 3 LoadExample.held 4 ≠ .error .panic :=
  ⟨LoadExample.loadHead0_panic_nonclosed.1, load_one_head_never_panics _ _ _ _ _⟩

/-- Refutation witness for the pinned tree (finding F11, repaired): on a 3-chain, `Load(4)` panicked
and `Load(0)` emptied the log; after the repair both list the 3 entries. (corpus/C15) -/
theorem pinned_tree_panicked_or_emptied :
    LoadExample.listing (Store.loadPinned LoadExample.acl (LoadExample.fresh 3) (LoadExample.fetchN LoadExample.chain3 4) 4) = .error .panic ∧
    LoadExample.listing (Store.loadPinned LoadExample.acl (LoadExample.fresh 3) (LoadExample.fetchN LoadExample.chain3 0) 0) = .ok [] ∧
    LoadExample.listing (Store.load LoadExample.acl (LoadExample.fresh 3) (LoadExample.fetchN LoadExample.chain3 4) 4) = .ok [1, 2, 3] ∧
    LoadExample.listing (Store.load LoadExample.acl (LoadExample.fresh 3) (LoadExample.fetchN LoadExample.chain3 (-1)) 0) = .ok [1, 2, 3] := by
  decide +kernel

/-- the Go text of `Load` in this run keeps, of a fetched log, only what the store does not hold yet
(`held`, before the access and signature checks), merges without a trim and asks for the trim only
after looking at the listing — the steps `loadHead` and `missingFetch` model (F30, F36) -/
theorem load_steps_tied_to_go_text : Gen.loadJoinOrder = Order.loadJoin := rfl

/-- **entries that `Load` leaves out do not count against the limit** (after the `fix:` commit, finding
F57). The bounded fetcher applies the limit to everything it reaches; `Load` asks again — for as many
more as were left out, and at least twice as many as before (F67) — until the fetch keeps at least `amount`
entries, or came back shorter than asked (the whole log), or left nothing out. For every fetcher that
returns at most what it is asked for and at most the `T` entries there are, the loop ends within `T + 1`
rounds, in one of those three cases. -/
theorem limited_load_fetches_until_the_limit_is_met (fetchN : Nat → OMap) (good : Entry → Bool) (amount T : Nat)
    (hle : ∀ n, (fetchN n).length ≤ n) (hT : ∀ n, (fetchN n).length ≤ T) (len : Nat) :
    Refetch.kept good (fetchN (Refetch.loop fetchN good amount (T + 1) len)) ≥ amount ∨
    (fetchN (Refetch.loop fetchN good amount (T + 1) len)).length < Refetch.loop fetchN good amount (T + 1) len ∨
    Refetch.refused good (fetchN (Refetch.loop fetchN good amount (T + 1) len)) = 0 := by
  have h := Refetch.loopR_keeps_enough (fun _ => fetchN) good amount T (fun _ => hle) (fun _ => hT) len
  simp only [Refetch.loopR_const] at h
  exact h

/-- Refutation witness for `Load` as it was (one fetch): of the 3 newest entries one belongs to another
log: 2 are kept although the log has 4; the loop asks again, for 6 (twice as many: F67), and keeps 4
(replayed on the real store: corpus/C15/f57) -/
theorem filtered_entry_counted_against_the_limit_before_the_fix :
    let e (h : Nat) (lg : Nat) : Entry := { hash := h, logId := lg, time := h, cid := 0, next := [] }
    let all : OMap := [e 5 1, e 4 7, e 3 1, e 2 1, e 1 1]
    let fetchN : Nat → OMap := fun n => all.take n
    let good : Entry → Bool := fun x => x.logId == 1
    Refetch.kept good (fetchN 3) = 2 ∧ Refetch.loop fetchN good 3 6 3 = 6 ∧ Refetch.kept good (fetchN 6) = 4 := by
  decide

/-- the same for the loop as it is since the review of that repair (finding F63, fix: commit): every round
excludes from its fetch what the earlier rounds found to belong to another log, so each round has a
fetcher of its own (`fs k`, ANY dependence on the earlier rounds). As long as no round's fetcher returns
more than it is asked for nor more than `T` entries, the loop ends within `T + 1` rounds, on a fetch
that keeps at least `amount` entries, or came back short (everything reachable was fetched), or left
nothing out. With one fetcher for every round it is the loop above (`Refetch.loopR_const`). -/
theorem limited_load_with_exclusions_fetches_until_the_limit_is_met (fs : Nat → Nat → OMap)
    (good : Entry → Bool) (amount T : Nat)
    (hle : ∀ k n, (fs k n).length ≤ n) (hT : ∀ k n, (fs k n).length ≤ T) (len : Nat) :
    let r := Refetch.loopR fs good amount (T + 1) 0 len
    Refetch.kept good (fs r.1 r.2) ≥ amount ∨ (fs r.1 r.2).length < r.2 ∨
      Refetch.refused good (fs r.1 r.2) = 0 :=
  Refetch.loopR_keeps_enough fs good amount T hle hT len

end Orbit.C15
