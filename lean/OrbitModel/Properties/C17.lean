import OrbitModel.Proofs.WritersInv
import OrbitModel.Generated.GenWrite
import OrbitModel.Model.Order
import OrbitModel.Proofs.ViewRace
/-!
# C17 — concurrent writes on one store are each recorded exactly once and recoverable

`Model/Writers.lean`: N goroutines, each appending (atomic under the log's lock) then persisting its
entry as the cached local head; the scheduler's choices are the input. `atomic := true` is the write
path after the `fix:` commit (append and put under one mutex), `false` the pinned tree.
-/
namespace Orbit.C17
open Orbit.Writers

/-- For every number of writers and **every** interleaving, every write that has returned is in the
ancestry of the cached head, i.e. is found again by close, reopen and load. -/
theorem every_acknowledged_write_is_recoverable (n : Nat) (sched : List Nat) :
    ∀ e ∈ acked (run true (init n) sched), e ∈ recovered (run true (init n) sched) :=
  (inv_run n sched).acked_recoverable

/-- the protocol invariant behind it holds in every reachable state -/
theorem protocol_invariant (n : Nat) (sched : List Nat) : Inv (run true (init n) sched) := inv_run n sched

/-- Refutation witness for the pinned tree (finding F13, repaired): appends 1, 2 — puts 2, 1 — the
cache ends on the older entry and the acknowledged write 2 is lost on restart. Replayed on the real
store with the two write-path hooks (corpus/C17). -/
theorem pinned_tree_loses_acknowledged_write :
    let s := run false (init 2) [0, 1, 1, 0]
    acked s = [1, 2] ∧ s.cache = some 1 ∧ recovered s = [1] := by decide

/-- "all of them are visible in the store": for every number of writers and EVERY interleaving of
their steps (`Model/ViewRace.lean`: append; then copy the log and rebuild the view, one atomic step
after the `fix:` commit), a writer that has returned finds its entry reflected by the view, and once
all have returned the view reflects the whole log. -/
theorem every_returned_write_is_in_the_view (n : Nat) (sched : List Nat) :
    (∀ pc ∈ (View.run true (View.init n) sched).pcs, ∀ e, pc = .done e →
        e ≤ (View.run true (View.init n) sched).view) ∧
    (View.allDone (View.run true (View.init n) sched) = true →
        (View.run true (View.init n) sched).view = (View.run true (View.init n) sched).logLen) :=
  ⟨fun pc hpc => ((View.freshInv_run n sched).1.bounds pc hpc).2.2, View.view_complete_when_all_returned n sched⟩

/-- Refutation witness for the tree before that repair (finding F19): the log was copied before the
index lock was taken; the writer holding the older copy writes last and both writers have returned
with a view that lacks the newer entry. Replayed on the real store with the hook after the copy
(corpus/C17, corpus/C06). -/
theorem unlocked_copy_left_a_stale_view :
    let s := View.run false (View.init 2) [0, 0, 1, 1, 1, 0]
    View.allDone s = true ∧ s.logLen = 2 ∧ s.view = 1 := View.unlocked_copy_leaves_a_stale_view

/-- the write path and the view update in the Go text of this run follow the order of the two models
(`Model/Writers.lean` with the mutex, `Model/ViewRace.lean` with the copy under the lock) -/
theorem write_path_order_tied_to_go_text : Gen.addOperationOrder = Order.addOperation ∧
    Gen.kvIndexOrder = Order.updateIndex ∧ Gen.docIndexOrder = Order.updateIndex :=
  ⟨rfl, rfl, rfl⟩

end Orbit.C17
