import OrbitModel.Proofs.ReplC11
import OrbitModel.Generated.GenWalk
import OrbitModel.Proofs.ReplExamples
import OrbitModel.Proofs.ReplCheck
/-!
# C11 — cancelled or failed replication requests do not wedge later replication

`Model/Replicator.lean` is the replicator after the `fix:` commit (each worker bound to its item;
cancelled-before-slot and failed fetches are forgotten and retried by the next `Load`). The general
theorems quantify over **every** earlier history `acts` — any interleaving of loads, cancellations (before a
request starts, while a worker waits for a slot, in the middle of a fetch, between fetch and join),
fetch successes and failures, and deliveries.
-/
namespace Orbit.C11
open Orbit.Repl

/-- Safety, any schedule: **no hole is ever forgotten**. In every reachable state every link of an
entry that is in the oplog, in the buffer or in a pending batch, or that belongs to this log and is
marked `fetched`, is in the oplog, has a task, or is remembered for retry. (The worker of a hash in
the buffer may still be `finishing`. That the rest of the bookkeeping is consistent in every reachable
state is `Repl.inv_reachable`; of it only `slots_are_conserved` is stated here.) -/
theorem no_hole_is_forgotten (net : Nat → Info) (c : Nat) (acts : List Act) (h : Nat) :
    let s := run net { sem := c } acts
    (h ∈ s.log ∨ inBP s h ∨ (task s h = some .fetched ∧ (net h).foreign = false)) →
    ∀ l ∈ (net h).links, l ∈ s.log ∨ task s l ≠ none ∨ l ∈ s.failed := by
  intro s hh l hl
  have hi := inv_reachable net c acts
  rcases hh with hh | hh | hh
  · exact hi.closure h (Or.inl (hi.log_ok h hh).1) (hi.log_ok h hh).2.2 l hl
  · exact hi.closure h (hi.bp_got h hh).1 (hi.bp_got h hh).2 l hl
  · exact hi.closure h (Or.inl hh.1) hh.2 l hl

/-- Any schedule: whenever the replicator comes to rest (no worker, no pending batch) with nothing
left to retry, every accepted entry reachable from heads `hs` that it tracks is in the oplog. (A head is
tracked once a `Load` has asked for it, `Repl.load_tracked`, and no move forgets it, `Repl.Move.tracked_mono`;
that every head asked for in `acts` is tracked at the end is not stated.) -/
theorem at_rest_means_complete {net : Nat → Info} {c : Nat} (acts : List Act) (hs : List Nat) :
    let s := run net { sem := c } acts
    s.workers = [] → s.pending = [] → s.failed = [] → (∀ h ∈ hs, tracked s h) →
    ∀ x, Reach net hs x → (net x).valid = true → (net x).foreign = false → x ∈ s.log := by
  intro s hw hp hf hh x hx hv hnf
  have hi := inv_reachable net c acts
  exact settled_log hi hw hp (settled_reach hi hw hf hh hx) hv hnf

/-- **The property**: after any history, once the aborted requests' workers have returned (`Clean`:
no worker of a cancelled context is left — this is when `Load` returns), one uncancelled request for
heads `hs`, run to quiescence, makes every accepted entry reachable from `hs` through accepted entries
(`ReachV`) visible, leaves nothing to retry, and the oplog holds accepted entries only. Fuel is explicit. -/
theorem later_request_completes {net : Nat → Info} {c : Nat} {U : List Nat} (hc : 0 < c)
    (hU : Closed net U) (acts : List Act) (ha : ActsIn U acts)
    (ctx : Nat) (hs : List Nat) (hhs : ∀ h ∈ hs, h ∈ U) (n : Nat) :
    let s := run net { sem := c } acts
    Clean s → s.cancelled.contains ctx = false → fuelBound U s < n →
    let s' := drain net n (step net s (.load ctx hs))
    quiescent s' = true ∧ s'.failed = [] ∧ (∀ x, ReachV net hs x → x ∈ s'.log) ∧
    (∀ x ∈ s'.log, (net x).valid = true ∧ (net x).foreign = false) :=
  fun hcl hctx hn => one_request hc hU (inv_reachable net c acts) (stIn_reachable hU ha) hcl hctx hhs hn

/-- Without `Clean` (a request issued while a cancelled request's workers are still unwinding): at
most two requests — the second may even carry no heads. -/
theorem at_most_two_requests {net : Nat → Info} {c : Nat} {U : List Nat} (hc : 0 < c)
    (hU : Closed net U) (acts : List Act) (ha : ActsIn U acts)
    (ctx : Nat) (hs : List Nat) (hhs : ∀ h ∈ hs, h ∈ U)
    (ctx' : Nat) (hs' : List Nat) (hhs' : ∀ h ∈ hs', h ∈ U) (n m : Nat) :
    let s := run net { sem := c } acts
    s.cancelled.contains ctx' = false → fuelLoad U s < n → 3 * U.length < m →
    let s1 := drain net n (step net s (.load ctx hs))
    let s2 := drain net m (step net s1 (.load ctx' hs'))
    quiescent s1 = true ∧ (s1.failed = [] → ∀ x, ReachV net hs x → x ∈ s1.log) ∧
    quiescent s2 = true ∧ s2.failed = [] ∧ (∀ x, ReachV net (hs ++ hs') x → x ∈ s2.log) ∧
    (∀ x ∈ s2.log, (net x).valid = true ∧ (net x).foreign = false) :=
  fun hctx' hn hm =>
    two_requests hc hU (inv_reachable net c acts) (stIn_reachable hU ha) ctx hhs hctx' hhs' hn hm

/-- The `Clean` hypothesis is needed (known finding K1): a request that arrives while the worker of a
pre-cancelled request has not yet failed finds the hash "already queued" and ends without it; the
next request brings it (`at_most_two_requests`). Decide-checked on the chain 1 ← 2 ← 3. -/
theorem unclean_request_can_miss :
    (Ex.finish [.cancel 1, .load 1 [3], .load 2 [3]]).log = [] ∧
    (Ex.finish [.cancel 1, .load 1 [3], .load 2 [3]]).failed = [3] := by decide +kernel

/-- Known finding K2 — what "completes" needs: the fetch of every retried hash returns. A cancelled
request leaves the hash of an unavailable ancestor (1) in the retry list; the next request (never
cancelled: the same head 2 and the newer, entirely available head 6) retries it under its own context;
6 and 5 are fetched and buffered, and in that state NO move of the replicator or of the store other
than the return of the hung fetch changes anything: the store does not see 6 and 5 while the block of
1 stays unavailable. Once it is served everything arrives. (replayed on the real replicator:
corpus/C11/k2) -/
theorem hung_retry_withholds_what_was_fetched :
    Ex.wedged.log = [2] ∧ Ex.wedged.buffer = [6, 5] ∧ Ex.wedged.pending = [] ∧
    (∀ a : Act, a ≠ .fetched 0 → a ≠ .fetchFail 0 → (∀ c hs, a ≠ .load c hs) → (∀ c, a ≠ .cancel c) →
      step Ex.netK Ex.wedged a = Ex.wedged) ∧
    (drain Ex.netK 40 Ex.wedged).log = [2, 6, 5, 1] := by
  refine ⟨?_, ?_, ?_, fun a h1 h2 h3 h4 => Ex.hung_retry_withholds a h1 h2 h3 h4,
    Ex.wedge_ends_when_the_block_is_served.1⟩ <;> rw [Ex.wedged_eq]

/-- Refutation witness for the pinned tree (finding F7, repaired): one pre-cancelled request leaves a
queued item and an `added` task without a worker for ever. The same head requested again is skipped; a
newer head shifts the workers by one item, leaves entry 2 orphaned, and the buffer is never flushed:
nothing becomes visible, ever. -/
theorem pinned_tree_wedges :
    let s1 := Ex.finishPinned Ex.s0 [.cancel 1, .load 1 [3], .acquire 0, .load 2 [3]]
    let s2 := Ex.finishPinned s1 [.load 3 [4]]
    s1.log = [] ∧ quiescent s1 = true ∧ task s1 3 = some .added ∧
    s2.log = [] ∧ quiescent s2 = true ∧ s2.buffer = [3, 4] ∧ task s2 2 = some .added := by decide +kernel

/-- **no aborted request leaks a fetch slot**: after EVERY history (loads, cancellations at any point,
failing fetches, any interleaving) free slots + workers holding one = the capacity, and once no worker
is left every slot is free and nothing is counted as in progress — so aborted requests can never
starve later ones of slots. (The harness checks the same equation on the real replicator whenever
it is at rest: `C11/slots`.) -/
theorem slots_are_conserved (net : Nat → Info) (c : Nat) (acts : List Act) :
    (run net { sem := c } acts).sem + holding (run net { sem := c } acts).workers = c ∧
    ((run net { sem := c } acts).workers = [] →
      (run net { sem := c } acts).sem = c ∧ (run net { sem := c } acts).inProgress = 0) := by
  have h := (inv_reachable net c acts).slots
  exact ⟨h.1, fun hw => by rw [hw] at h; exact h⟩

/-- the replicator of the Go text of this run looks at EVERY hash a fetched entry names (no early exit
from the loop that queues them), as the model's `fetched` does -/
theorem parent_walk_tied_to_go_text : Gen.parentWalkExits = 0 := rfl

end Orbit.C11

namespace Orbit.Repl.Ex

/-- the hypotheses can be met: `C11.at_most_two_requests` on the history of `one_load_not_enough`: the
second request (no heads at all) completes the first one. -/
theorem c11_instance :
    let s := run net0 { sem := 2 } [.load 1 [3], .acquire 0, .fetched 0, .finish 0, .cancel 1]
    let s1 := drain net0 200 (step net0 s (.load 2 [3]))
    let s2 := drain net0 20 (step net0 s1 (.load 3 []))
    quiescent s2 = true ∧ s2.failed = [] ∧ ∀ x, ReachV net0 [3] x → x ∈ s2.log := by
  have h := C11.at_most_two_requests (net := net0) (c := 2) (U := U0) (by decide) closed_U0
    [.load 1 [3], .acquire 0, .fetched 0, .finish 0, .cancel 1] (actsIn_of_all (by decide))
    2 [3] (by decide) 3 [] (by decide) 200 20 (by decide) (by decide) (by decide)
  obtain ⟨_, _, h3, h4, h5, _⟩ := h
  exact ⟨h3, h4, h5⟩

end Orbit.Repl.Ex
