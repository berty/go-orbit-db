import OrbitModel.Proofs.History
import OrbitModel.Proofs.GenEqQuery
import OrbitModel.Proofs.WindowOps
/-!
# C08 — event log is append-only and stably ordered; range queries return exact windows
-/
namespace Orbit.C08

/-- Merging more entries (any `Step`: local append or a successful join of an honest batch of this log,
in a universe with `ClockMono`: without it a joined entry can make two listed entries change places) never
removes an entry and never changes the relative order of two entries already listed. -/
theorem listing_only_grows {ca : Entry → Bool} {U : List Entry} (hU : HashDet U) (hT : TieFree U)
    (hM : ClockMono U) {id : Nat} {L L' : Log} (hR : Reachable ca U id L) (hs : Step ca U L L') :
    (values L).Sublist (values L') :=
  good_step_values_sublist hU hT hM (reachable_good hU hM hR) hs

/-- … over any number of steps. -/
theorem listing_only_grows_steps {ca : Entry → Bool} {U : List Entry} (hU : HashDet U) (hT : TieFree U)
    (hM : ClockMono U) {L L' : Log} (hG : Good U L) (hs : Steps ca U L L') :
    (values L).Sublist (values L') :=
  steps_values_sublist hU hT hM hG hs

/-- Each entry is listed after everything its writer had seen when writing it. -/
theorem listed_after_seen {U : List Entry} (hU : HashDet U) (hT : TieFree U) (hM : ClockMono U)
    (L : Log) (hG : Good U L) (p c : Entry) (hp : p ∈ L.entries) (hc : c ∈ L.entries)
    (hnext : c.hash ∈ p.next) : ∃ a b d, values L = a ++ c :: b ++ p :: d :=
  seen_before hU hT hM L hG p c hp hc hnext

/-- A query by a single bound (gt / gte / lt / lte, an entry of the log) and any amount
(unset, 0, positive, larger than the log, negative) returns exactly the corresponding contiguous
window of the full listing. `queryWin` is the Go `query`/`read` pair (reverse, read, reverse). -/
theorem query_returns_exact_window (L : List Entry) (o : StreamOpts) (hnd : HashNodup L)
    (hb : boundOk L o) (hc : NoClash o) : queryWin L o = windowSpec L o := by
  rw [← queryWinOps_all_ops (fun _ => true) L o (fun _ _ => rfl),
    ← windowSpecOps_all_ops (fun _ => true) L o (fun _ _ => rfl)]
  exact queryWinOps_eq_windowSpecOps _ L o hnd hb hc

/-- `NoClash` (at most one of gt/gte, and of lt/lte when those are absent) is exactly what is
needed: with two bounds of the same direction the Go code takes the hash from one and the
inclusiveness from the other. The property quantifies over a single bound. -/
theorem window_iff_single_bound (L : List Entry) (o : StreamOpts) (hnd : HashNodup L) (hb : boundOk L o) :
    queryWin L o = windowSpec L o ↔ NoClash o := by
  refine ⟨fun heq => ?_, query_returns_exact_window L o hnd hb⟩
  -- In a clash the second bound of the side only switches the read to inclusive. Without it the
  -- options do not clash, the specification is the same, and the read is the exclusive one.
  refine ⟨fun hgt => ?_, fun hgt hgte hlt => ?_⟩
  · obtain ⟨h, hgt⟩ := Option.isSome_iff_exists.mp hgt
    cases hgte : o.gte with
    | none => rfl
    | some h' =>
      exfalso
      obtain ⟨e, he, rfl⟩ := hb h (Or.inl hgt)
      have h1 := query_returns_exact_window L { o with gte := none } hnd
        (fun x hx => hb x (hx.imp_right (Or.imp_left nofun))) ⟨fun _ => rfl, by simp [hgt]⟩
      have hs : windowSpec L { o with gte := none } = windowSpec L o := by
        unfold windowSpec; simp only [hgt]
      rw [hs, ← heq] at h1
      unfold queryWin at h1
      simp only [hgt, hgte, Option.isSome_some, Option.isSome_none, Bool.or_false, Bool.or_true,
        if_true] at h1
      exact readWin_inclusive_ne hnd he (normAmount_pos (List.length_pos_of_mem he)) h1.symm
  · obtain ⟨h, hlt⟩ := Option.isSome_iff_exists.mp hlt
    cases hlte : o.lte with
    | none => rfl
    | some h' =>
      exfalso
      obtain ⟨e, he, rfl⟩ := hb h (Or.inr (Or.inr (Or.inl hlt)))
      have h1 := query_returns_exact_window L { o with lte := none } hnd
        (fun x hx => hb x (hx.imp_right (Or.imp_right (Or.imp_right nofun))))
        ⟨fun h => by simp [hgt] at h, fun _ _ _ => rfl⟩
      have hs : windowSpec L { o with lte := none } = windowSpec L o := by
        unfold windowSpec; simp only [hgt, hgte, hlt]
      rw [hs, ← heq] at h1
      unfold queryWin at h1
      simp only [hgt, hgte, hlt, hlte, Option.isSome_some, Option.isSome_none, Option.isNone_some,
        Bool.or_false, Bool.false_eq_true, if_false, List.reverse_inj] at h1
      exact readWin_inclusive_ne (hashNodup_reverse hnd) (List.mem_reverse.mpr he)
        (normAmount_pos (List.length_pos_of_mem he)) h1.symm

/-- `Get` by address (`gte = hash, amount = 1`) returns that entry. -/
theorem get_returns_entry (L : List Entry) (h : Nat) (hnd : HashNodup L) (e : Entry) (he : e ∈ L)
    (hh : e.hash = h) : queryWin L { gte := some h, amount := some 1 } = [e] := by
  rw [← queryWinOps_all_ops (fun _ => true) L _ (fun _ _ => rfl)]
  exact getOps_of_operation _ L h hnd e he hh rfl

/-- every result is a contiguous part of the listing, whatever the options -/
theorem result_is_contiguous (L : List Entry) (o : StreamOpts) : ∃ a b, L = a ++ queryWin L o ++ b := by
  obtain ⟨a, b, h⟩ := queryWin_infix L o
  exact ⟨a, b, h.symm⟩

/-- the `amount` normalisation of `eventlogstore.query` in the Go text of this run is the model's -/
theorem amount_normalisation_tied_to_go_text (a : Option Int) (len : Nat) :
    Gen.genNormAmount a.isSome (a.getD 0) len = (normAmount a len : Int) := gen_normAmount a len

end Orbit.C08
