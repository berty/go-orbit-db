import OrbitModel.Proofs.PeersDiff
import OrbitModel.Proofs.Uvarint
import OrbitModel.Proofs.GenEqFrame
import OrbitModel.Proofs.Connect
import OrbitModel.Generated.GenConnect
import OrbitModel.Generated.GenConnectCtx
import OrbitModel.Generated.GenWatch
import OrbitModel.Generated.GenMonitor
import OrbitModel.Model.Order
/-!
# C20 — transport adapters deliver each payload once, intact, attributed to its sender
-/
namespace Orbit.C20
open Orbit.Codec

/-- one poll of `peersDiff`: joining = new ∖ old (each once if the snapshot is duplicate-free), leaving =
old ∖ new (each once, whatever the map iteration order), members := new -/
theorem poll_reports_exact_difference (old all : List Nat) :
    (∀ x, x ∈ (peersDiff old all).1 ↔ x ∈ all ∧ x ∉ old) ∧
    (∀ x, x ∈ (peersDiff old all).2.1 ↔ x ∈ old ∧ x ∉ all) ∧
    (peersDiff old all).2.2 = all ∧ (peersDiff old all).2.1.Nodup ∧
    (all.Nodup → (peersDiff old all).1.Nodup) :=
  ⟨mem_joining old all, mem_leaving old all, rfl, leaving_nodup old all, joining_nodup old all⟩

/-- for every sequence of membership snapshots, folding the reported joins and leaves over the empty
set gives the last snapshot -/
theorem reported_changes_replay_to_last_snapshot (snaps : List (List Nat)) :
    ∀ x, x ∈ (watchPeers [] snaps).foldl applyEv [] ↔ x ∈ snaps.getLastD [] := membership_replay snaps

/-- the same holds for EVERY watcher of a topic (a store closed and opened again on one instance watches
the same cached topic object): it is told about the peers that are there when it starts (`WatchPeers`
after the `fix:` commit, finding F24). That what earlier watchers saw plays no part is the DEFINITION of
`laterWatcher false`, which discards `shared`: the statement is the theorem above again, and its content
is the contrast with `laterWatcher true` in the witness below -/
theorem every_watcher_is_told_about_present_peers («shared» : List Nat) (snaps : List (List Nat)) :
    ∀ x, x ∈ (laterWatcher false «shared» snaps).foldl applyEv [] ↔ x ∈ snaps.getLastD [] :=
  membership_replay snaps

/-- Refutation witness for the tree before that repair: the membership list lived in the topic object
shared by all watchers; a second watcher started while peers 1 and 2 were present reported nothing, so
a reopened store never exchanged heads with them (replayed on the real adapter: corpus/C20/f24). -/
theorem shared_membership_hid_present_peers_from_a_later_watcher :
    laterWatcher true [1, 2] [[1, 2]] = [] ∧
    (laterWatcher false [1, 2] [[1, 2]]).foldl applyEv [] = [1, 2] := by decide

/-- each change is reported exactly once (`hb`: the snapshot is duplicate-free; `ha` is not used, the
record being a Go map) -/
theorem each_change_reported_once (a b : List Nat) (ha : a.Nodup) (hb : b.Nodup) (x : Nat) :
    (x ∈ b → x ∉ a → (watchPeers a [b]).count (.join x) = 1 ∧ (watchPeers a [b]).count (.leave x) = 0) ∧
    (x ∈ a → x ∉ b → (watchPeers a [b]).count (.leave x) = 1 ∧ (watchPeers a [b]).count (.join x) = 0) ∧
    ((x ∈ a ↔ x ∈ b) → (watchPeers a [b]).count (.join x) = 0 ∧ (watchPeers a [b]).count (.leave x) = 0) := by
  simp only [(poll_nodup a b hb).count, mem_poll]
  by_cases h1 : x ∈ a <;> by_cases h2 : x ∈ b <;> simp [h1, h2]

/-- a peer never receives its own messages; every remote payload is delivered exactly once, in order -/
theorem own_messages_filtered (self : Nat) (msgs : List (Nat × List Nat)) :
    filterSelf self msgs = msgs.filterMap (fun m => if m.1 ≠ self then some m.2 else none) := by
  simp only [filterSelf, ← List.filterMap_eq_map', List.filterMap_filter, bne_iff_ne]

/-- both ends of a pairwise channel derive the same channel name, and it identifies the pair -/
theorem channel_name_symmetric (a b : Nat) : channelId a b = channelId b a := channelId_symm a b
theorem channel_name_identifies_pair (a b c d : Nat) (h : channelId a b = channelId c d) :
    (a = c ∧ b = d) ∨ (a = d ∧ b = c) := (channelId_eq_iff a b c d).mp h

/-- a frame written by `Send` (payload within the 4 MiB limit) is read back byte for byte, whatever follows
it on the stream -/
theorem frame_roundtrip (payload rest : List Nat) (h : payload.length ≤ 4 * 1024 * 1024) :
    readFrame (writeFrame payload ++ rest) = some payload := Codec.frame_roundtrip payload rest h

theorem length_prefix_roundtrip (n : Nat) (hn : n < 2 ^ 64) (rest : List Nat) :
    decodeUvarint (encodeUvarint n ++ rest) = some (n, rest) := uvarint_roundtrip n hn rest

/-- oversized frames are refused (and each stream carries one frame, so later traffic is unaffected) -/
theorem oversize_refused (n : Nat) (hbig : n > 4 * 1024 * 1024) (hn : n < 2 ^ 64) (rest : List Nat) :
    readFrame (encodeUvarint n ++ rest) = none := Codec.oversize_refused n hbig hn rest

theorem accepted_length_within_limit (len64 : BitVec 64) (n : Nat) (h : frameGuard len64 = .accept n) :
    (n : Int) ≤ maxFrame ∧ n = len64.toNat := frameGuard_accept len64 n h

/-- the limit and the guard are the ones in the Go text of this run -/
theorem tied_to_go_text (len64 : BitVec 64) :
    Gen.delimitedReadMaxSize = 4 * 1024 * 1024 ∧ Gen.genFrameRefused len64 = (frameGuard len64 == .refused) :=
  ⟨rfl, gen_frameRefused len64⟩

/-- however many stores of one instance connect to one peer, and in whatever order the mutex of the
pairwise channel serialises them, there is exactly one subscription to the pairwise topic — one
monitor, so every payload of that peer is delivered once -/
theorem each_peer_is_subscribed_once (n : Nat) (hn : 0 < n) :
    (Connect.runLocked n {}).subscriptions = 1 := by
  obtain ⟨n, rfl⟩ := Nat.exists_eq_succ_of_ne_zero (Nat.ne_of_gt hn)
  rw [Connect.runLocked_eq]

/-- `Connect` in the Go text of this run holds the mutex from before the `Subscribe` to after it -/
theorem connect_order_tied_to_go_text : Gen.connectOrder = Order.connect := rfl

/-- were the lock released around `Subscribe`, two overlapping calls would both subscribe: each looks
the peer up before the other has inserted it, and every payload is then delivered twice (seeded change
C20c) -/
theorem a_lock_released_around_subscribe_would_deliver_twice :
    (Connect.runNarrow { callers := [(.check, false), (.check, false)] } [0, 1, 0, 1, 0, 1]).st.subscriptions = 2 := by
  decide

/-- a node that closes its store leaves the topic: the adapter closes its subscription of the
underlying pubsub (Go text of this run; finding F39) — without it no membership change ever reaches
the other watchers, whatever `peersDiff` does with the snapshots -/
theorem watcher_closes_its_subscription_tied_to_go_text : Gen.watchMessagesOrder = Order.watchMessages := rfl

/-- **the pairwise channel hands on exactly what its target sent, attributed to it** — for every
sequence of messages on the pairwise topic, by the two ends and by anybody else (the topic name is
derived from two public peer ids): every event names `p` and carries a payload `p` published, each as
often as `p` published it, in order (after the `fix:` commit, finding F40) -/
theorem pairwise_channel_hands_on_only_what_its_target_sent (p : Nat) (msgs : List (Nat × List Nat)) :
    Connect.monitor p msgs = msgs.filter (fun m => m.1 == p) ∧
    (∀ e ∈ Connect.monitor p msgs, e.1 = p ∧ e ∈ msgs) ∧
    (∀ d, (Connect.monitor p msgs).count (p, d) = msgs.count (p, d)) := by
  have h := Connect.monitor_eq p msgs
  refine ⟨h, fun e he => ?_, fun d => ?_⟩
  · rw [h] at he
    exact ⟨beq_iff_eq.mp (List.mem_filter.mp he).2, (List.mem_filter.mp he).1⟩
  · rw [h]
    exact List.count_filter (beq_self_eq_true p)

/-- Refutation witness for the tree before that repair: only the end's own messages were dropped, and
a third peer's payload was handed on as coming from the target (replayed on the real adapter:
`tone … third=`, corpus/C20/f40) -/
theorem third_party_payload_was_attributed_to_the_target_before_the_fix :
    Connect.monitor0 1 2 [(2, [7]), (9, [6, 6, 6]), (1, [5])] = [(2, [7]), (2, [6, 6, 6])] ∧
    Connect.monitor 2 [(2, [7]), (9, [6, 6, 6]), (1, [5])] = [(2, [7])] := by
  decide

/-- the sender test stands in the Go text of this run, between the read and the emit -/
theorem sender_test_tied_to_go_text : Gen.monitorTopicOrder = Order.monitorTopic := rfl

/-- the pairwise channel to a peer belongs to the instance: in the Go text of this run its context
derives from the channels' own, not from the caller's, and its subscription is closed when its monitor
ends (after the `fix:` commit, finding F50: the channel died with the context of the FIRST store that
connected to the peer — closing that store made the instance deaf to the peer's head exchanges for
its other stores, `Send` on the other side still reporting success; and the node never left the
pairwise topic. Replayed on the real adapter: `tone … twoctx`) -/
theorem pairwise_channel_outlives_its_first_caller_tied_to_go_text :
    Gen.connectCtxOrder = Order.connectCtx := rfl

end Orbit.C20
