import OrbitModel.Model.Instance
import OrbitModel.Generated.GenTopic
import OrbitModel.Generated.GenNewPeer
/-!
# C09 — databases opened by the same process do not affect one another
-/
namespace Orbit.C09
open Orbit.Inst

/-- An event originating in database A (a write, a load-added, a merged batch) leaves every other
database B of the instance exactly as it was: contents, index, replication status, emitted store
events, and what it published on its channel. -/
theorem other_databases_untouched (B : IStore) (ev : BusEv) (h : ev.source ≠ B.addr) :
    deliver false B ev = B := by
  cases ev <;> simp_all [deliver, BusEv.source]

/-- for the whole instance: broadcasting any event changes only the store it belongs to -/
theorem broadcast_changes_only_the_source (stores : List IStore) (ev : BusEv) :
    ∀ B ∈ stores, B.addr ≠ ev.source → B ∈ broadcast false stores ev := by
  intro B hB hne
  unfold broadcast
  exact List.mem_map.mpr ⟨B, hB, other_databases_untouched B ev (fun h => hne h.symm)⟩

/-- whatever a store publishes carries its own address (never another database's) -/
theorem published_under_own_address (pinned : Bool) (s : IStore) (ev : BusEv)
    (h : ∀ m ∈ s.published, m.1 = s.addr) : ∀ m ∈ (deliver pinned s ev).published, m.1 = (deliver pinned s ev).addr := by
  cases ev with
  | write addr heads =>
    simp only [deliver]
    split
    · exact h
    · intro m hm
      rcases List.mem_append.mp hm with hm | hm
      · exact h m hm
      · simp only [List.mem_singleton] at hm; rw [hm]
  | loadAdded src time => simp only [deliver]; split <;> exact h
  | loadEnd src logs => simp only [deliver]; split <;> exact h

/-- …but on the pinned tree it published *other databases' heads* under it, and reacted to their
replicator events (finding F5, repaired): a write in database 1 makes database 2 publish its heads;
a load-added of database 1 raises database 2's maximum and makes it emit `replicate`. Reproduced on the
real stores (corpus/C09). -/
theorem pinned_tree_cross_talk :
    (deliver true { addr := 2 } (.write 1 [7])).published = [(2, [7])] ∧
    (deliver true { addr := 2 } (.loadAdded 1 5)).store.status.max = 5 ∧
    (deliver true { addr := 2 } (.loadAdded 1 5)).emitted = ["replicate"] ∧
    deliver false { addr := 2 } (.write 1 [7]) = { addr := 2 } := by
  refine ⟨by decide, by decide, by decide, ?_⟩
  exact other_databases_untouched _ _ (by decide)

example : (deliver false { addr := 1 } (.write 1 [7])).published = [(1, [7])] := by decide

/-- the pubsub topic a store subscribes to in the Go text of this run is named by its address — the
one thing no two databases share (`published_under_own_address` is about that topic) -/
theorem store_topic_is_its_address_tied_to_go_text : Gen.storeTopicIsAddress = true := rfl

/-- every store event emitted on the bus the stores of an instance share says which database it is
about: the new-peer event of the Go text of this run carries the address of the store that emits it
(after the `fix:` commit, finding F43: it was the only store event without one — a listener of one
database was told about the peers of every other; the harness watches the shared bus for store events
that name no database) -/
theorem new_peer_event_names_its_database_tied_to_go_text : Gen.newPeerEventHasAddress = true := rfl

end Orbit.C09
