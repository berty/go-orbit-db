import OrbitModel.Generated.GenWrite
import OrbitModel.Model.Order
import OrbitModel.Generated.GenLoadHeads
import OrbitModel.Generated.GenLoadComplete
import OrbitModel.Proofs.StoreReach
import OrbitModel.Proofs.CrashExample
import OrbitModel.Proofs.LoadChecked
import OrbitModel.Proofs.LoadExamples
import OrbitModel.Generated.GenLoadJoin
/-!
# C05 — acknowledged writes and replicated entries survive restart and crashes

`Model/Persist.lean`: an execution emits an ordered trace of persistence effects (block writes, the
two cache writes) and acknowledgement markers; a crash keeps any prefix; recovery (`Load(-1)`) rebuilds
the ancestry of the cached heads among the blocks on disk. Assumption stated by the property: each
effect is durable and atomic once its call returns. The crash theorem speaks of these traces (`ValidHist`),
the theorems after it of `Store`; no theorem connects the two models.
-/
namespace Orbit.LoadExample

/-- the store after `LoadFromSnapshot` of a snapshot taken at `c3`, while the cache names the later
acknowledged write 5 as the local head: the log does not hold 5 -/
def afterSnapshot : Store := { kind := .log, log := logOfEntries 9 [c1, c2, c3], localHeads := some [5] }

def w6 : Nat → List Nat → Entry := fun t n => { hash := 6, logId := 9, time := t, cid := 0, next := n }

end Orbit.LoadExample

namespace Orbit.C05

/-- For **every** valid history of a replica started on the empty log (writes, denied writes, fetches,
merged batches — including batches with rejected logs) and **every** prefix of its effect trace: every
acknowledged write and every entry reported as replicated is recovered; only entries whose block was
really written are recovered; the recovered set is closed under ancestry; and the recovered log lists
exactly the pre-crash listing restricted to the recovered entries. -/
theorem acknowledged_survive_any_crash {acl : Acl} {U : List Entry} {id : Nat} {ops : List SOp} {L : Log}
    (hU : HashDet U) (hT : TieFree U) (hM : ClockMono U)
    (hvalid : ValidHist acl U id ops L) (p : List Eff) (hp : p <+: trace ops) :
    (∀ h, Eff.ack h ∈ p → h ∈ recover U (diskOf p)) ∧
    (∀ hs, Eff.replicated hs ∈ p → ∀ h ∈ hs, h ∈ recover U (diskOf p)) ∧
    (∀ h ∈ recover U (diskOf p), Eff.block h ∈ p) ∧
    (∀ h ∈ recover U (diskOf p), ∀ e ∈ U, e.hash = h → ∀ n ∈ e.next, n ∈ recover U (diskOf p)) ∧
    (∃ D, Good U D ∧ (∀ e ∈ D.entries, e ∈ L.entries) ∧
      (∀ h, h ∈ recover U (diskOf p) ↔ has D.entries h = true) ∧
      values D = (values L).filter (fun e => (recover U (diskOf p)).contains e.hash)) :=
  Orbit.acknowledged_survive_any_crash hU hT hM hvalid p hp

/-- the mechanism: at every store state reached from an empty log by `AddOperation` and
`replicationLoadComplete` (`StoreReachable`; `Load` is not one of its steps) the cached heads
(`_localHeads ++ _remoteHeads`) cover the whole log, whatever logs of a batch were rejected (after the
`fix:` commit for F6) -/
theorem cached_heads_cover_the_log {acl : Acl} {U : List Entry} {s : Store} (hU : HashDet U) (hM : ClockMono U)
    (h : StoreReachable acl U s) : Good U s.log ∧ StoreCovers s :=
  storeReachable_covers hU hM h

/-- the order of the persistence effects in the Go text of this run is the one of the effect
traces the theorems quantify over: a local write persists its head right after the append, a merged
batch persists the heads of the MERGED log after the joins and before it is reported -/
theorem persistence_order_tied_to_go_text : Gen.addOperationOrder = Order.addOperation ∧
    Gen.loadCompleteOrder = Order.loadComplete := ⟨rfl, rfl⟩

/-- `Load` in the Go text of this run decodes the two cached keys into the two head lists the model
reloads from, and loads local heads followed by remote heads -/
theorem reload_sources_tied_to_go_text : Gen.loadDecodes = Order.loadDecodes ∧ Gen.loadDecodesHeads = Order.loadHeads :=
  ⟨rfl, rfl⟩

/-- **Nothing the cache pointed to is forgotten by a replication round**, whatever the store had
loaded and with whatever limit: every remote head cached before `replicationLoadComplete` is still
cached after it, or the log now holds it (finding F26, `fix:` commit). -/
theorem replication_never_forgets_cached_heads (acl : Acl) (s : Store) (logs : List (OMap × OMap)) :
    ∀ h ∈ s.remoteHeads.getD [], h ∈ (s.loadEnd acl logs).remoteHeads.getD [] ∨
      has (s.loadEnd acl logs).log.entries h = true :=
  loadEnd_keeps_cached acl s logs

/-- … and so **everything the cache reached before a replication round it reaches after it**
(`ReachU`: following `next` links among all entries ever written — what an unlimited `Load` rebuilds
when the blocks are retrievable), for every store state whose log is `Good`: also one opened with a limit,
which holds only part of what its cache points to — unless that load had to TRIM the log (`trim` leaves the
link index stale: such a log is not `Good`, the one of `LimitedLoadExample` among them) -/
theorem replication_never_shrinks_what_the_cache_reaches {acl : Acl} {U : List Entry} (hU : HashDet U)
    (hM : ClockMono U) {s : Store} {logs : List (OMap × OMap)} (hG : Good U s.log)
    (hB : BatchHonest U s.log.id logs) :
    ∀ x, ReachU U s.cachedHeads x → ReachU U (s.loadEnd acl logs).cachedHeads x := by
  refine fun x => ReachU.mono_of_covers (loadEnd_good (acl := acl) hU hM hG hB).inv.sub
    (loadEnd_covers hU hM hG hB) (fun r hr => ?_)
  rcases List.mem_append.mp hr with hl | hrm
  · exact Or.inl (List.mem_append_left _ hl)
  · exact (loadEnd_keeps_cached acl s logs r hrm).imp_left (List.mem_append_right _)

/-- on a store that holds everything its cache points to (any store that loaded without a limit)
that rule writes exactly the heads of the merged log, as the tree before the `fix:` commit of F26 did -/
theorem on_fully_loaded_stores_the_cache_is_the_heads_of_the_log (acl : Acl) (s : Store) (logs : List (OMap × OMap))
    (h : ∀ x ∈ s.remoteHeads.getD [], has s.log.entries x = true) :
    (s.loadEnd acl logs).remoteHeads = some ((sortedHeads (s.loadEnd acl logs).log).map (·.hash)) := by
  rw [loadEnd_eq_loadEnd0 acl s logs h]; rfl

namespace LimitedLoadExample
/-- writer 0's chain 1 ← 2 ← 3, writer 1's branch 4 ← 5, then writer 0's 6 on top of 3 -/
def e (h t c : Nat) (next : List Nat) : Entry := { hash := h, logId := 1, time := t, cid := c, next := next }
def e3 : Entry := e 3 3 0 [2]
def e6 : Entry := e 6 4 0 [3]
def acl : Acl := { wildcard := true }
/-- the store after a restart and `Load(1)`: the log holds the newest entry only, the cache still
names both heads of the persisted log -/
def s : Store := { kind := .log, log := { (Log.empty 1) with entries := [e3], heads := [e3] }, remoteHeads := some [3, 5] }
end LimitedLoadExample

/-- Refutation witness for the tree before that repair: after `Load(1)` the log holds entry 3 only;
one replication round (entry 6) rewrote `_remoteHeads` with the heads of that log: head 5 — the
other writer's branch, reported as replicated in an earlier life — was neither cached nor held any
more, and the next restart with `Load(-1)` could not reach it (replayed on the real store:
corpus/C05/f26). The current rule keeps it. -/
theorem limited_load_then_replication_forgot_a_branch_before_the_fix :
    open LimitedLoadExample in
    ((s.loadEnd0 acl [([e6], [e6])]).remoteHeads = some [6] ∧ has (s.loadEnd0 acl [([e6], [e6])]).log.entries 5 = false) ∧
    (s.loadEnd acl [([e6], [e6])]).remoteHeads = some [6, 5] := by
  decide

/-- what `Load` hands to `Join` after a restart: entries of this log that `Join` accepts, nothing
else (after the `fix:` commits, findings F27 and F29) — so `Join` never refuses the fetched log as a
whole, and the valid entries of a cached head come back whatever their ancestry holds -/
theorem reload_joins_only_entries_join_accepts (acl : Acl) (id : Nat) (fetch : Nat → OMap) (h : Nat) :
    ∀ e ∈ goodFetch acl id fetch h, acceptable acl.canAppend e = true ∧ e.logId = id := by
  intro e he
  obtain ⟨_, hid, hacc, _⟩ := mem_goodFetch.mp he
  exact ⟨hacc, hid⟩

/-- Refutation witness for the tree before the F29 repair: entry 2 (by writer 3) names the refused
entry 1 as its parent; the replicator had merged 2 on arrival, but `Load` from the cached head 2
handed both to `Join`, which refused the lot: the log stayed empty after the restart (replayed on
the real store with an acknowledged local write on top: corpus/C05/f29). The current code brings 2 back. -/
theorem refused_ancestor_lost_the_valid_entries_above_it_before_the_fix :
    let bad  : Entry := { hash := 1, logId := 1, time := 1, cid := 0, next := [], ident := 9, key := 9 }
    let good : Entry := { hash := 2, logId := 1, time := 2, cid := 3, next := [1], ident := 3, key := 3 }
    let acl : Acl := { ids := [3] }
    let fetch : Nat → OMap := fun _ => [good, bad]
    loadHead acl (ownFetch 1 fetch) (-1) (Log.empty 1) 2 = .ok (Log.empty 1) ∧
    (∃ L, loadHead acl (goodFetch acl 1 fetch) (-1) (Log.empty 1) 2 = .ok L ∧ good ∈ L.entries ∧ bad ∉ L.entries) := by
  refine ⟨rfl, ⟨_, rfl, ?_, ?_⟩⟩ <;> decide

/-- **a reload says when it could not read what the cache points to** (after the `fix:` commit,
finding F32): `Load` succeeds only if every cached head came back from the fetcher, and is then the
modelled load; a cached head that did not come back (ended context, unreachable block) is an error,
whatever the other heads and the limit -/
theorem reload_succeeds_only_over_every_cached_head (acl : Acl) (s s' : Store) (fetch : Nat → OMap)
    (amount : Int) (mh : Option Int) :
    (s.loadChecked acl fetch amount mh = .ok s' ↔
      (∀ h ∈ s.cachedHeads, has (fetch h) h = true) ∧ s.load acl fetch amount mh = .ok s') ∧
    (∀ h ∈ s.cachedHeads, has (fetch h) h = false → s.loadChecked acl fetch amount mh = .error .notFound) :=
  ⟨loadChecked_ok_iff acl s s' fetch amount mh,
   fun h hm hf => loadChecked_error_of_missing_head acl s fetch amount mh h hm hf⟩

/-- Refutation witness for the tree before that repair: the 4-entry chain persisted and cached under
its head, loaded while the fetcher brings nothing (its context has ended): success over an empty
listing; the current code reports an error, and the same load with a working fetcher lists the four
entries (replayed on the real store: corpus/C05/f32) -/
theorem reload_under_an_ended_context_reported_success_before_the_fix :
    LoadExample.listing (Store.load LoadExample.acl (LoadExample.fresh 4) (fun _ => []) (-1)) = .ok [] ∧
    LoadExample.listing (Store.loadChecked LoadExample.acl (LoadExample.fresh 4) (fun _ => []) (-1)) = .error .notFound ∧
    LoadExample.listing (Store.loadChecked LoadExample.acl (LoadExample.fresh 4)
      (LoadExample.fetchN LoadExample.chain4 (-1)) (-1)) = .ok [1, 2, 3, 4] := by
  decide +kernel

/-- **a local write never forgets what the cache pointed to** (after the `fix:` commit, finding F33) —
for every store state, in particular a store opened with `Load(n)` or `LoadFromSnapshot` that does
not hold its cached local head: every cached local head is still cached after `AddOperation`, or the
log holds it; and on a store that holds its cached local heads the cache written is `[e]`, as before that
commit -/
theorem write_never_forgets_cached_heads (acl : Acl) (s : Store) (mk : Nat → List Nat → Entry) :
    (∀ h ∈ s.localHeads.getD [], h ∈ (s.addOp acl mk).1.localHeads.getD [] ∨
      has (s.addOp acl mk).1.log.entries h = true) ∧
    ((∀ x ∈ s.localHeads.getD [], has s.log.entries x = true) → s.addOp acl mk = s.addOp0 acl mk) :=
  ⟨addOp_keeps_cached acl s mk, addOp_eq_addOp0 acl s mk⟩

/-- **a write never shrinks what the cache reaches** (what `Load(-1)` rebuilds after the next restart),
whatever part of the persisted log the store holds: a cached local head is kept, or the log holds it and
then the new entry — which names every head of the log — reaches it; the remote heads are untouched -/
theorem write_never_shrinks_what_the_cache_reaches {acl : Acl} {U : List Entry} (hU : HashDet U)
    (hM : ClockMono U) {s : Store} {mk : Nat → List Nat → Entry} (hG : Good U s.log)
    (hw : WriteOk acl U s.log mk) :
    ∀ x, ReachU U s.cachedHeads x → ReachU U (s.addOp acl mk).1.cachedHeads x := by
  cases hcan : acl.canAppend (mk (appendTime s.log) (appendNext s.log))
  · rw [(addOp_denied hcan).2, (addOp_denied hcan).1]
    exact fun _ h => h
  · refine fun x => ReachU.mono_of_covers (addOp_good (acl := acl) hU hM hG hw).inv.sub
      (addOp_ok_covers hM hG hw hcan) (fun r hr => ?_)
    rcases List.mem_append.mp hr with hl | hrm
    · exact (addOp_keeps_cached acl s mk r hl).imp_left (List.mem_append_left _)
    · exact Or.inl (List.mem_append_right _ (by rw [addOp_remoteHeads]; exact hrm))

/-- Refutation witness for the tree before that repair: a store that loaded a snapshot taken at entry
3 while its cache named the later acknowledged write 5; a write (entry 6, parent 3) replaced
`_localHeads` by `[6]`: nothing led to 5 any more, and 4 and 5 were gone after the next restart
(replayed on the real store: corpus/C05/f33). The current code keeps 5 cached. -/
theorem write_after_snapshot_load_forgot_later_writes_before_the_fix :
    open LoadExample in
    (afterSnapshot.addOp0 acl w6).1.localHeads = some [6] ∧
    has (afterSnapshot.addOp0 acl w6).1.log.entries 5 = false ∧
    (afterSnapshot.addOp acl w6).1.localHeads = some [6, 5] := by
  decide

/-- the Go text of `Load` in this run performs, for one cached head, the steps the models assume, in
their order: fetch, the two checks that end the load with an error (ended context, head that did not
come back: F32), the filters (own log, not held, at the address of its content, accepted, signed), the
longer fetch when a limit made the first keep too little (F57), the merge without a trim, the trim only
when the listing is longer than the limit, the view rebuilt before a failed head's error is returned (F61) -/
theorem load_steps_tied_to_go_text : Gen.loadJoinOrder = Order.loadJoin := rfl

/-- **which cached heads a write keeps is decided on the log as it was BEFORE the append** (after the
`fix:` commit, finding F49): a cached head the log did not hold then is kept — whatever a `Load` still
running merges in the meantime — and one it held is named (through the heads) by the new entry.
Deciding it afterwards dropped a head merged between the append and the look: held by then, but not
named by the new entry (witness: cached head 5, log {1,2,3}; the write appends 6 on top of 3 while a
load merges 5: looking afterwards keeps nothing, and nothing leads to 5 any more). -/
theorem kept_heads_are_decided_before_the_append :
    open LoadExample in
    (afterSnapshot.addOp acl w6).1.localHeads = some [6, 5] ∧
    keptHeads afterSnapshot.localHeads afterSnapshot.log = [5] ∧
    keptHeads afterSnapshot.localHeads
      { (afterSnapshot.addOp acl w6).1.log with
          entries := (afterSnapshot.addOp acl w6).1.log.entries ++ [{ hash := 5, logId := 9, time := 5, cid := 0, next := [4] }] } = [] ∧
    (w6 (appendTime afterSnapshot.log) (appendNext afterSnapshot.log)).next = [3] := by
  decide

/-- the order in the Go text of this run: the cached local heads are read (and the log looked at)
before the append -/
theorem kept_heads_before_append_tied_to_go_text : Gen.addOperationOrder = Order.addOperation := rfl

/-- a `Load` that fails because the block of one cached head is gone leaves what the OTHER heads led to
readable: the log of the load over the heads that came back, the view its replay, the cache as it was
(finding F61, `fix:` commit: after the F32 repair `Load` returned its error before the view was rebuilt: the
log held the entries of the other heads, `Get` answered nil; corpus/C05/f61) -/
theorem failed_load_leaves_what_came_back_readable (acl : Acl) (s t : Store) (fetch : Nat → OMap)
    (amount : Int) (h : (s.headsBack fetch).load acl fetch amount = .ok t) :
    (s.loadReadable acl fetch amount).log = t.log ∧
    (s.loadReadable acl fetch amount).idx = updateIndex s.kind s.idx t.log ∧
    (s.loadReadable acl fetch amount).localHeads = s.localHeads ∧
    (s.loadReadable acl fetch amount).remoteHeads = s.remoteHeads := by
  unfold Store.headsBack at h
  unfold Store.loadReadable
  simp [h]

/-- non-vacuity: the 4-chain cached under its head plus a second cached head whose block is gone - Load
fails and the four entries are listed -/
theorem failed_load_example :
    let s := LoadExample.fresh 4
    let fetch := LoadExample.fetchN LoadExample.chain4 (-1)
    let s2 : Store := { s with remoteHeads := some [99] }
    LoadExample.listing (s2.loadChecked LoadExample.acl fetch (-1)) = .error .notFound ∧
    LoadExample.listing (.ok (s2.loadReadable LoadExample.acl fetch (-1))) = .ok [1, 2, 3, 4] := by
  intro s fetch s2
  decide +kernel

end Orbit.C05
