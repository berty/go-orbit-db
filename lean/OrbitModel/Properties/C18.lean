import OrbitModel.Model.Lifecycle
import OrbitModel.Generated.GenClose
import OrbitModel.Model.Order
import OrbitModel.Proofs.EmitterStop
import OrbitModel.Generated.GenWatch
import OrbitModel.Proofs.CrashExample  -- not used below: C05's crash theorem ("reopens with all acknowledged data") is checked with this property
import OrbitModel.Proofs.BusClose
/-!
# C18 — Close and Drop are clean: idempotent, leak-free, scoped to one database

Partial by nature: that goroutines really end and that nothing hangs is runtime behaviour, sampled by
the harness (goroutine census after every scenario, deadlines on every call after Close). Proved
here: the decision logic of Close/Drop, the shutdown of the legacy event channel for every schedule,
and (by C05) that a closed directory reopens with all acknowledged data.
-/
namespace Orbit.C18
open Orbit.Emit

/-- the tear-down runs at most once however often and in whatever order Close, Drop and the other
operations are called (what a later `Close` does: `second_close_is_noop`; that later operations
return is not stated in the model, where `Life.step` is total: the harness samples it) -/
theorem close_is_idempotent (ops : List Life.Op) : (Life.run {} ops).closeCalls ≤ 1 := by
  -- the tear-down has run exactly once if the store is closed and not at all otherwise
  have h : (Life.run {} ops).closeCalls = (Life.run {} ops).closed.toNat :=
    List.foldlRecOn (motive := fun s : Life.St => s.closeCalls = s.closed.toNat) ops _ rfl fun s hs o _ => by
      obtain ⟨closed, calls, dropped⟩ := s
      cases o <;> cases closed <;> simp_all [Life.step]
  exact h ▸ Bool.toNat_le _

theorem second_close_is_noop (s : Life.St) (h : s.closed = true) : Life.step s .close = (s, .ok) := by
  simp [Life.step, h]

/-- the legacy event channel of a store always shuts down once its context ends: from **any**
reachable state, a few more steps of its two goroutines leave both finished and the channel closed -/
theorem event_channel_always_shuts_down (cap : Nat) (acts : List Act) :
    let s := run false (init cap) acts
    s.cancelled = true →
    let t := run false s stopSchedule
    t.g1done = true ∧ t.g2 = .exited ∧ t.closed = true :=
  stops cap acts

/-- the channel is closed only after both goroutines are done and the context has ended (what the
subscriber can still receive then: `Emit.after_close`) -/
theorem closed_only_when_done (p : Bool) (cap : Nat) (acts : List Act) :
    let s := run p (init cap) acts
    s.closed = true → s.g1done = true ∧ s.g2 = .exited ∧ s.cancelled = true :=
  closed_only_after_both_done p cap acts

/-- Refutation witness for the pinned tree (finding F14, repaired): the shutdown signal sent without
the lock is lost when the drainer is between its check and `Wait()`; it then waits **for ever**,
whatever happens next. Replayed on the real emitter with the `emitter.before.wait` hook (corpus/C18). -/
theorem pinned_tree_leaks_goroutine (acts : List Act) :
    (run true (run true (init 1) lostWakeSchedule) acts).closed = false ∧
    (run true (run true (init 1) lostWakeSchedule) acts).g2 = .waiting :=
  have h := run_inv (p := true) (fun _ _ _ => Next.stuck) acts pinned_lost_wakeup
  ⟨h.2.2.2, h.1⟩

/-- `Close` in the Go text of this run tests the already-closed guard before anything else, and
unregisters the store (by address, in its instance) only after it -/
theorem close_order_tied_to_go_text : Gen.closeOrder = Order.close := rfl

/-- the pubsub adapter in the Go text of this run closes the subscription of the underlying pubsub
when the goroutine reading it ends (after the `fix:` commit, finding F39: it never did — the node
stayed on the topic after the store was closed, and its peers saw it neither leave nor come back;
the harness counts the open subscriptions of its pubsub API after every store is closed) -/
theorem watcher_closes_its_subscription_tied_to_go_text : Gen.watchMessagesOrder = Order.watchMessages := rfl

/-- **`Close` in the middle of a load and of a replication** (after the `fix:` commit, finding F55), on
the model of one subscription of the event bus (`Model/BusClose.lean`: the main loop's subscription
to the replicator's events — 128 slots; the replicator inside `emit`, holding the read lock of the bus
node, with events left to hand over; the main loop not reading because it waits for the join mutex a
`Load` holds). `Replicator().Stop()` closes the replicator's emitters, which needs that lock:
* when `Close` closes the subscription first (a typed subscription drains its channel while it closes:
  `drain := true`), the emitter gets through and the lock is free — for every capacity ≥ 1 and every
  number of pending events;
* before the repair nobody closed it while the main loop was held up: the state is a deadlock that no
  action of anybody leaves (`Close` returned only once the `Load` got its block).
Replayed on the real store: `corpus/C18/f55` (`first=hang` before). -/
theorem close_mid_load_mid_replication_gets_through (s : BusClose.St) (h : BusClose.Stuck s) (hcap : s.cap > 0) :
    ((BusClose.run true s (BusClose.unwind s.pending)).closed = true ∧
      (BusClose.run true s (BusClose.unwind s.pending)).pending = 0) ∧
    (∀ acts, BusClose.run false s acts = s) :=
  ⟨BusClose.close_gets_through s h hcap, BusClose.stuck_forever s h⟩

/-- the premise with the real numbers: 128 slots full, the replicator inside `emit` with one more event -/
example : BusClose.Stuck { cap := 128, chan := 128, pending := 1, reading := false, closing := true } := by
  unfold BusClose.Stuck; decide

end Orbit.C18
