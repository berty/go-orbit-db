import OrbitModel.Model.Store
import OrbitModel.Proofs.History
import OrbitModel.Proofs.KvIndex
import OrbitModel.Generated.GenWrite
import OrbitModel.Model.Order
import OrbitModel.Proofs.ViewRace
/-!
# C06 — key-value store = last-writer-wins replay of its log in causal order

`kvUpdate` is the loop of `kvIndex.UpdateIndex` (newest → oldest with a handled set, *mutating the
map it is handed*: a fresh one since the `fix:` commit of F45); `lwwReplay` is the specification (oldest → newest from the empty map).
-/
namespace Orbit.C06

/-- One step of the invariant: whenever the listing only grows, running the loop of `UpdateIndex` over
the old index (as `updateIndex0` does, the code until the `fix:` commit of F45) gives the replay of the new
listing. -/
theorem index_step (idx : KV) (vs vs' : List Entry) (hops : KvOps vs')
    (hinv : KV.equiv idx (lwwReplay vs)) (hsub : ∀ e ∈ vs, e ∈ vs') :
    KV.equiv (kvUpdate idx vs') (lwwReplay vs') := by
  rw [lwwReplay_eq] at hinv ⊢
  rw [kvUpdate_eq idx vs' hops]
  exact scanW_inv_step kvW idx vs vs' (nodupW_kvW vs') hinv hsub

/-- **At every step of every history** of one replica (any interleaving of local appends and
merged batches — `History`), the index obtained by running `UpdateIndex` after each step OVER THE INDEX OF THE
STEP BEFORE (the loop as it was until the `fix:` commit of F45, `updateIndex0`; since then the map is rebuilt, and
`view_is_the_replay_of_the_listing` below needs no history) equals the last-writer-wins replay of the *current* listing. The only hypotheses are the universe assumptions of
the log (content addressing, the property's tie-freedom, clock monotonicity) and that the log carries
key-value operations. Unbounded in steps, entries, writers. -/
theorem index_tracks_replay {ca : Entry → Bool} {U : List Entry}
    (hU : HashDet U) (hT : TieFree U) (hM : ClockMono U) (id : Nat) (ls : List Log)
    (h : History ca U (Log.empty id) ls) (hops : ∀ L ∈ ls, KvOps (values L)) :
    KV.equiv (ls.foldl (fun idx L => kvUpdate idx (values L)) [])
             (lwwReplay (values ((Log.empty id :: ls).getLast (by simp)))) :=
  history_fold_inv hU hT hM index_step (good_empty U id) h [] (fun _ => rfl) hops

/-- The precondition is real: an index holding a key the log no longer mentions keeps it. -/
theorem stale_key_survives :
    KV.get (kvUpdate [("stale", "x")] []) "stale" = some "x" ∧ KV.get (lwwReplay []) "stale" = none := by
  decide

/-- Happens-before: an update that was appended after its writer had seen another entry is listed
after that entry on every replica that holds both … -/
theorem seen_is_listed_before {U : List Entry} (hU : HashDet U) (hT : TieFree U) (hM : ClockMono U)
    (L : Log) (hG : Good U L) (u v : Entry) (hu : u ∈ L.entries) (hv : v ∈ L.entries)
    (hseen : v.hash ∈ u.next) : ∃ a b d, values L = a ++ v :: b ++ u :: d :=
  seen_before hU hT hM L hG u v hu hv hseen

/-- … and in the replay the later update to a key wins. -/
theorem later_put_wins (vs₁ vs₂ : List Entry) (u : Entry) (k v : String) (hu : u.op = .put k v)
    (hlater : ∀ e ∈ vs₂, opKey e.op ≠ some k) :
    KV.get (lwwReplay (vs₁ ++ u :: vs₂)) k = some v := by
  unfold lwwReplay
  rw [List.foldl_append, List.foldl_cons, get_foldl_lwwStep_of_ne _ _ _ hlater]
  simp only [lwwStep, hu, KV.get_put, if_true]

theorem later_delete_wins (vs₁ vs₂ : List Entry) (u : Entry) (k : String) (hu : u.op = .del k)
    (hlater : ∀ e ∈ vs₂, opKey e.op ≠ some k) :
    KV.get (lwwReplay (vs₁ ++ u :: vs₂)) k = none := by
  unfold lwwReplay
  rw [List.foldl_append, List.foldl_cons, get_foldl_lwwStep_of_ne _ _ _ hlater]
  simp only [lwwStep, hu, KV.get_erase, if_true]

/-- A locally appended entry is listed last (after everything the replica held). -/
theorem own_write_listed_last {ca : Entry → Bool} {U : List Entry} (hU : HashDet U) (hT : TieFree U)
    (hM : ClockMono U) {L : Log} (hG : Good U L) (mk : Nat → List Nat → Entry)
    (hmem : mk (appendTime L) (appendNext L) ∈ U)
    (hnext : (mk (appendTime L) (appendNext L)).next = appendNext L)
    (htime : (mk (appendTime L) (appendNext L)).time = appendTime L)
    (hfresh : has L.entries (mk (appendTime L) (appendNext L)).hash = false)
    (hcan : ca (mk (appendTime L) (appendNext L)) = true) :
    values (append ca L mk).1 = values L ++ [mk (appendTime L) (appendNext L)] :=
  append_values hU hT hM hG mk hmem hnext htime hfresh hcan

/-- "At every moment" also under concurrent updates of the view (two writers, or a writer and a
replication batch): with the log copied under the index lock (after the `fix:` commit, finding F19)
the view is built from the whole log once all updates have returned — for every number of updaters
and every schedule. (That it is never built from less of the log than an update that has returned had
seen is the clause `done e → e ≤ s.view` of `View.Inv`, which `View.freshInv_run` keeps along every run.)
(`view = k` stands for "the replay of the first k entries", which is what `index_tracks_replay`
says an update writes.) -/
theorem concurrent_updates_never_leave_a_stale_view (n : Nat) (sched : List Nat)
    (hd : View.allDone (View.run true (View.init n) sched) = true) :
    (View.run true (View.init n) sched).view = (View.run true (View.init n) sched).logLen :=
  View.view_complete_when_all_returned n sched hd

/-- the tree before that repair: the older copy written last (decide-checked; replayed on the real
store, corpus/C06) -/
theorem unlocked_copy_left_a_stale_view :
    let s := View.run false (View.init 2) [0, 0, 1, 1, 1, 0]
    View.allDone s = true ∧ s.logLen = 2 ∧ s.view = 1 := View.unlocked_copy_leaves_a_stale_view

/-- both indices of the Go text of this run copy the log under their lock -/
theorem view_update_order_tied_to_go_text : Gen.kvIndexOrder = Order.updateIndex ∧
    Gen.docIndexOrder = Order.updateIndex := ⟨rfl, rfl⟩

/-- **the view is the replay of what the log lists — whatever the log listed before, whatever the view
was** (after the `fix:` commit, finding F45: the index is rebuilt into a fresh map). No history
hypothesis: `index_tracks_replay` and `index_step` need "the listing only grows", which a
`Load` with a limit on a live store breaks (it trims the log). -/
theorem view_is_the_replay_of_the_listing (idx : KV) (L : Log) (hops : KvOps (values L)) :
    KV.equiv (updateIndex .kv idx L) (lwwReplay (values L)) :=
  kvUpdate_eq_replay [] (values L) hops (fun _ h => by cases h)

/-- Refutation witness for the index as it was (the map patched, never cleared): a key of an entry the
log no longer lists stayed in the view; after the `fix:` commit it goes (replayed on the real store by
`Load(n)` on a live store: corpus/C06/f45-trimmed-keys-stay.script) -/
theorem stale_key_survived_a_trim_before_the_fix :
    KV.get (updateIndex0 .kv [("stale", "x")] (Log.empty 1)) "stale" = some "x" ∧
    KV.get (updateIndex .kv [("stale", "x")] (Log.empty 1)) "stale" = none := by decide

end Orbit.C06
