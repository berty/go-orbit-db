import OrbitModel.Proofs.DecodeSafe
import OrbitModel.Proofs.Uvarint
import OrbitModel.Proofs.GenEqFrame
import OrbitModel.Generated.GenListener
import OrbitModel.Generated.GenDocs
import OrbitModel.Generated.GenLogQuery
import OrbitModel.Model.Order
import OrbitModel.Proofs.WindowOps
/-!
# C12 — malformed network messages never crash a peer or change its state

From the decode result onward (the bytes → structure step of `encoding/json` is observed by the
harness, not modelled): a message either fails to decode (dropped by the listener loop) or yields
heads each of which is `null` or an object with identity / clock / hash present or absent.
`syncHeads` is `Sync` after the `fix:` commit; `syncPinned` the pinned tree. The stream frame reader is
`frameGuard` (after its `fix:` commit), tied to the Go text by `gen_frameRefused`.
`handleMessage acl m` is `handleMessage acl m 1` (a default argument): the listener theorems are stated for
the store whose log has id 1.
-/
namespace Orbit.C12

/-- no decoded message makes `Sync` panic: whatever mix of null, empty and partial heads (stated at log id 1,
the default argument of `handleMessage`; the proof does not look at the id) -/
theorem no_message_panics (acl : Acl) (m : Decoded) : handleMessage acl m ≠ .panic := by
  unfold handleMessage
  split
  · simp
  · simp
  · exact syncHeads_never_panics acl _ _ []

/-- … and no sequence of them does -/
theorem listener_survives_any_stream (acl : Acl) (ms : List Decoded) :
    ∀ o ∈ ms.map (handleMessage acl), o ≠ .panic :=
  List.forall_mem_map.2 fun m _ => no_message_panics acl m

/-- only complete heads written for this log, signed by the identity they name, that the access controller
admits are handed to the replicator, in order; null / incomplete / foreign / refused ones are dropped -/
theorem only_complete_admitted_heads_loaded (acl : Acl) (id : Nat) (hs : List RawHead) (es : List Entry)
    (h : syncHeads acl id hs [] = .load es) : es = (hs.filter (RawHead.loadable acl id)).map RawHead.entry :=
  syncHeads_loads_exactly_loadable acl id hs es h

/-- a malformed message never stops a later valid one from being handled: the listener handles each
message by a pure function of that message, so the outcome does not depend on what preceded it -/
theorem later_valid_messages_handled (acl : Acl) (ms : List Decoded) (m : Decoded) :
    ((ms ++ [m]).map (handleMessage acl)).getLast? = some (handleMessage acl m) := by
  simp

/-- the listener LOOPS (the direct-channel monitor of the instance and the topic listener of each
store) as they are in the Go text of this run — the number of statements that would end them on an
error is regenerated from the source (`Gen.listenerExitsOnError`) — handle every message of every
stream: a message that `Sync` refuses does not stop the messages after it from being handled -/
theorem listener_loop_handles_every_message (acl : Acl) (ms : List Decoded) :
    runListener (Gen.listenerExitsOnError != 0) acl ms = ms.map (handleMessage acl) := by
  rw [show Gen.listenerExitsOnError = 0 from rfl]; exact runListener_handles_all acl ms

/-- were a `return` (or `break`) put where the loops `continue`, everything after the first refused
message would be dropped (seeded change C12 does exactly that; the regenerated constant becomes 1 and
the proof above no longer checks) -/
theorem a_loop_that_left_on_error_would_drop_later_messages (acl : Acl) (m : Decoded) (ms : List Decoded)
    (h : handleMessage acl m = .err) : runListener true acl (m :: ms) = [.err] := by
  unfold runListener; rw [h]; rfl

/-- no PUTALL batch makes the document index panic, whatever `null` members it holds: they are left
out, and the batch is indexed as the batch of its real members (`GetDocs` after the `fix:` commit,
finding F25) -/
theorem null_batch_members_never_panic (acc : List String × KV) (docs : List (Option (String × String))) :
    docAllRaw true acc docs = .ok ((docs.filterMap id).foldl docAllStep acc) := by
  induction docs generalizing acc with
  | nil => rfl
  | cons d rest ih =>
    cases d with
    | none => simpa [docAllRaw] using ih acc
    | some x => simpa [docAllRaw] using ih (docAllStep acc x)

/-- the accessor (`operation.GetDocs`) of the Go text of this run does leave nil members out: the member
loops of the document store (`docAllRaw true`) never see one -/
theorem batch_accessor_tied_to_go_text : Gen.getDocsSkipsNil = true := rfl

/-- Refutation witness for the tree before that repair: a validly signed entry whose batch is
`[null]` (any writer can publish one; on a wildcard database anybody) crashed every replica that
merged it, in the store's main loop (replayed on the real store: corpus/C12/f25). -/
theorem null_batch_member_crashed_the_index_before_the_fix :
    docAllRaw false ([], []) [none] = .panic := rfl

/-- an entry whose payload is not an operation the view knows (`Op.other`: it does not decode, or
names an operation other than PUT / DEL / PUTALL) changes nothing in the key-value and document views
and shadows nothing: the scan goes on below it (after the `fix:` commit, finding F35 — the loops used
to give up with an error at such an entry, on every later update) -/
theorem entries_that_are_not_operations_change_nothing (acc : List String × KV) (e : Entry)
    (h : e.op = .other) : kvStep acc e = acc ∧ docStepWith docAllStep acc e = acc := by
  unfold kvStep docStepWith
  rw [h]
  exact ⟨rfl, rfl⟩

/-- no 64-bit length prefix makes the stream reader panic; what it accepts is within the limit -/
theorem no_length_prefix_panics (len64 : BitVec 64) :
    Codec.frameGuard len64 ≠ .panic ∧
    (∀ n, Codec.frameGuard len64 = .accept n → (n : Int) ≤ Codec.maxFrame ∧ n = len64.toNat) :=
  ⟨Codec.frameGuard_never_panics len64, Codec.frameGuard_accept len64⟩

/-- the guard in the Go text of this run is the guard of the theorem -/
theorem frame_guard_tied_to_go_text (len64 : BitVec 64) :
    Gen.genFrameRefused len64 = (Codec.frameGuard len64 == .refused) := gen_frameRefused len64

/-- Refutation witnesses for the pinned tree (findings F8, F8b, repaired): `{"heads":[null]}` and a
head without identity dereference nil; a length prefix of 2^63 passes the size check as a negative
int and makes the allocation panic. All three were replayed on the real code (corpus/C12). -/
theorem pinned_tree_panics (acl : Acl) :
    (syncPinned acl [{ isNull := true }] []) matches .panic ∧
    (syncPinned acl [{ hasIdentity := false }] []) matches .panic ∧
    Codec.frameGuardPinned (BitVec.ofNat 64 (2 ^ 63)) = .panic := by
  refine ⟨?_, ?_, Codec.frameGuardPinned_panics⟩ <;> simp [syncPinned]

/-- an event log's listing and windows are taken over the entries whose payload is an operation: the
`query` of the Go text of this run picks them out before it takes the window (after the `fix:` commit,
finding F48: one validly signed entry with a payload that is not an operation made every listing END
at it, silently — acknowledged writes after it were not listed; the garbage family injects one into
event logs and queries) -/
theorem event_log_windows_skip_what_is_not_an_operation_tied_to_go_text :
    Gen.logQueryOrder = Order.logQuery := rfl

/-- what an event log lists when its log also holds entries that are not operations (`isOp e = false`),
for every log with distinct hashes, every choice of which entries those are, every bound that is the hash of
an entry of the log - an operation or not - (`boundOk`), options that do not set both bounds of one side
(`NoClash`) and every amount: exactly the operations on the asked side of the bound's position
(`windowSpecOps`). `queryWinOps`
is the model of the Go `query`/`read` of this run (order of its steps: theorem above; compared with the
implementation on every query of the garbage and log families). (Review of the F48 repair, fix:
commit - the first repair filtered the operations out BEFORE it looked the bound up: a cursor on an
entry that is not an operation was not found and the window started at the first entry.) -/
theorem event_log_lists_the_operations_around_any_bound (isOp : Entry → Bool) (L : List Entry)
    (o : StreamOpts) (hnd : HashNodup L) (hb : boundOk L o) (hc : NoClash o) :
    queryWinOps isOp L o = windowSpecOps isOp L o := queryWinOps_eq_windowSpecOps isOp L o hnd hb hc

/-- nothing that is not an operation is ever listed (no hypothesis at all), in the order of the log -/
theorem event_log_never_lists_what_is_not_an_operation (isOp : Entry → Bool) (L : List Entry)
    (o : StreamOpts) :
    (∀ e ∈ queryWinOps isOp L o, isOp e = true ∧ e ∈ L) ∧ (queryWinOps isOp L o).Sublist (L.filter isOp) :=
  ⟨fun _ he => (List.mem_filter.mp ((queryWinOps_sublist isOp L o).subset he)).symm,
    queryWinOps_sublist isOp L o⟩

/-- on the logs the store writes itself (operations only) the listing is the plain window of C08 -/
theorem event_log_of_operations_only_lists_as_before (isOp : Entry → Bool) (L : List Entry)
    (o : StreamOpts) (hall : ∀ e ∈ L, isOp e = true) :
    queryWinOps isOp L o = queryWin L o ∧ windowSpecOps isOp L o = windowSpec L o :=
  ⟨queryWinOps_all_ops isOp L o hall, windowSpecOps_all_ops isOp L o hall⟩

/-- `Get(h)` is the listing from `h` on, one entry long. For an entry that IS an operation it answers with
that entry; for an entry that is NOT one, whatever the listing hands back is another entry of the log
(another hash) - the test the Go `Get` makes before it answers, so that it fails instead of handing out
the operation of an entry nobody asked for (finding F69, fix: commit; `get` of the injected entry in the
corpus, `C12/get` predicate) - for every log with distinct hashes and every choice of the non-operations -/
theorem get_answers_for_the_entry_asked_for (isOp : Entry → Bool) (L : List Entry) (h : Nat)
    (hnd : HashNodup L) (e : Entry) (he : e ∈ L) (hh : e.hash = h) :
    (isOp e = true → queryWinOps isOp L { gte := some h, amount := some 1 } = [e]) ∧
    (isOp e = false → ∀ x ∈ queryWinOps isOp L { gte := some h, amount := some 1 }, x ≠ e ∧ x.hash ≠ h) :=
  ⟨getOps_of_operation isOp L h hnd e he hh, getOps_of_non_operation isOp L h hnd e he hh⟩

/-- … and the Go `Get` of this run makes that test before it answers -/
theorem get_test_tied_to_go_text : Gen.logGetOrder = Order.logGet := rfl

end Orbit.C12
