import OrbitModel.Proofs.Auth
import OrbitModel.Proofs.AuthBatch
import OrbitModel.Proofs.AuthExamples
import OrbitModel.Model.Store
import OrbitModel.Generated.GenVerify
import OrbitModel.Model.Order
/-!
# C04 — tampered, mis-addressed or foreign-database entries are never merged
-/
namespace Orbit.C04

/-- Whatever log is handed to `Join` — honest or not — everything it adds passed the access check,
verifies under its key and carries this database's log id; and nothing already held is lost. -/
theorem only_verified_same_database_entries_merged {ca : Entry → Bool} {L L' : Log} {A headsA : OMap} {Aid : Nat}
    (h : join ca L A headsA Aid = .ok L') :
    (∀ e ∈ L'.entries, e ∉ L.entries → ca e = true ∧ e.sigOk = true ∧ e.logId = L.id) ∧
    (∀ e ∈ L.entries, e ∈ L'.entries) :=
  ⟨(join_extends h).new, (join_extends h).mono⟩

/-- a rejected join leaves no new state at all; an accepted one keeps every held entry -/
theorem held_entries_unaffected (ca : Entry → Bool) (L : Log) (A headsA : OMap) (Aid : Nat) :
    (∃ err, join ca L A headsA Aid = .error err) ∨
    (∃ L', join ca L A headsA Aid = .ok L' ∧ ∀ e ∈ L.entries, e ∈ L'.entries) := by
  cases h : join ca L A headsA Aid with
  | error err => exact Or.inl ⟨err, rfl⟩
  | ok L' => exact Or.inr ⟨L', rfl, join_mono h⟩

/-- the same for a whole delivered batch (`replicationLoadComplete`): held entries stay, every new
entry is verified and of this database — whatever else the batch contains -/
theorem batch_merges_only_verified (acl : Acl) (L : Log) (logs : List (OMap × OMap)) :
    (∀ e ∈ L.entries, e ∈ (joinAll acl L logs).entries) ∧
    (∀ e ∈ (joinAll acl L logs).entries, e ∉ L.entries →
      acl.canAppend e = true ∧ e.sigOk = true ∧ e.logId = L.id) :=
  ⟨(joinAll_extends acl logs L).mono, (joinAll_extends acl logs L).new⟩

/-- an announced head of this log that verifies and passes the access check, but whose content does not hash
to its claimed address, aborts the `Sync` (what is fetched below it is checked where it is fetched:
`fetched_entries_sit_at_the_address_of_their_content`) -/
theorem misaddressed_head_refused (acl : Acl) (id : Nat) (heads : List Entry) (hok : syncPrecheck acl id heads = .ok) :
    ∀ h ∈ heads, h.logId = id → h.sigOk = true → acl.canAppend h = true → h.hashOk = true := by
  intro h hh hid hsig hca
  exact C04_hash acl _ hok h (List.mem_filter.mpr ⟨hh, by simp [hid, hsig]⟩) hca

/-- listing: every listed entry of a reachable replica is a member (so the three clauses above apply
to the visible state) — needs the replicator's log-id filter, which `AStep.joinOk` records -/
theorem listed_entries_are_members {acl : Acl} {U : List Entry} (hU : HashDet U) {id : Nat} {L : Log}
    (h : AReachable acl.canAppend U id L) : ∀ x ∈ values L, x ∈ L.entries :=
  values_subset_of_heads L (areachable_inv hU h).heads_sub

/-- Refutation witness for the pinned tree (finding F4, repaired in the replicator): `Join` merges the
heads of a log whose entry was written for another database without making it a member. -/
theorem pinned_foreign_entry_becomes_head :
    let x : Entry := { hash := 4, logId := 8, time := 1, cid := 0, next := [] }
    (joinCore (Log.empty 9) [x] [x] 9).heads = [x] ∧ (joinCore (Log.empty 9) [x] [x] 9).entries = [] := by
  decide

/-- the reload route: what `Load` hands to `Join` was written for this log, entry by entry (after the
`fix:` commit, finding F27), so the hypothesis of `listed_entries_are_members` (`AStep.joinOk`) — every
entry of the incoming log carries our log id — holds on this route as it does for the replicator's
batches (`only_verified_same_database_entries_merged` needs none) -/
theorem load_hands_only_own_entries_to_join (id : Nat) (fetch : Nat → OMap) (h : Nat) :
    ∀ e ∈ ownFetch id fetch h, e.logId = id :=
  fun _ he => (mem_ownFetch.mp he).2

/-- Refutation witness for the tree before that repair: entry 3 of this log (by a writer) names
entry 2 — written for ANOTHER log by anybody — in its `refs`; fetched from the cached head 3 it is a
head of the fetched log, and `Join` made it a head of the store's log after a restart, listed and
indexed (replayed on the real store: corpus/C04/f27). With the filter it stays out. -/
theorem foreign_entry_came_back_through_load_before_the_fix :
    let w : Entry := { hash := 3, logId := 1, time := 3, cid := 1, next := [], refs := [2] }
    let f : Entry := { hash := 2, logId := 7, time := 2, cid := 9, next := [], ident := 9, key := 9 }
    let fetch : Nat → OMap := fun _ => [w, f]
    (∃ L, loadHead { wildcard := true } fetch (-1) (Log.empty 1) 3 = .ok L ∧ f ∈ L.heads) ∧
    (∃ L, loadHead { wildcard := true } (ownFetch 1 fetch) (-1) (Log.empty 1) 3 = .ok L ∧ f ∉ L.heads ∧ f ∉ L.entries) := by
  refine ⟨⟨_, rfl, ?_⟩, ⟨_, rfl, ?_, ?_⟩⟩ <;> decide

/-- **what the reload and snapshot routes hand to `Join` sits at the address of its content** (after
the `fix:` commit, finding F46; the replicator drops such an entry like one of another log, and `Sync`
has always compared the re-encoded hash of an announced head): an entry fetched under an address that
is not the address of its content — the same signed entry written again with other bytes — is never
merged, so one signed entry is one member of the log -/
theorem fetched_entries_sit_at_the_address_of_their_content (acl : Acl) (id : Nat) (fetch : Nat → OMap) (h : Nat) :
    ∀ e ∈ goodFetch acl id fetch h, e.hashOk = true ∧ acceptable acl.canAppend e = true ∧ e.logId = id := by
  intro e he
  obtain ⟨_, hid, hacc, hk⟩ := mem_goodFetch.mp he
  exact ⟨hk, hacc, hid⟩

/-- Refutation witness for the filter as it was: entry 2 is writer 1's genuine entry 1 written again
with other bytes (same content, same valid signature, another address); a colluding writer's entry 3
names it; loaded from the cached head 3 it was merged — the writer's payload listed twice; with the
filter it stays out (replayed on the real store live, after a restart and through a snapshot: corpus/C04/f46) -/
theorem twin_of_a_genuine_entry_was_merged_before_the_fix :
    let g : Entry := { hash := 1, logId := 1, time := 1, cid := 1, next := [] }
    let t : Entry := { hash := 2, logId := 1, time := 1, cid := 1, next := [], hashOk := false }
    let x : Entry := { hash := 3, logId := 1, time := 2, cid := 2, next := [2, 1] }
    let fetch : Nat → OMap := fun _ => [x, t, g]
    (∃ L, loadHead { wildcard := true } (goodFetch1 { wildcard := true } 1 fetch) (-1) (Log.empty 1) 3 = .ok L ∧ t ∈ L.entries) ∧
    (∃ L, loadHead { wildcard := true } (goodFetch { wildcard := true } 1 fetch) (-1) (Log.empty 1) 3 = .ok L ∧
      t ∉ L.entries ∧ g ∈ L.entries ∧ x ∈ L.entries) := by
  refine ⟨⟨_, rfl, ?_⟩, ⟨_, rfl, ?_, ?_, ?_⟩⟩ <;> decide

/-- the steps of `VerifyEntryAuthor` of the Go text of this run, in the order of `Order.verifyAuthor`: the
identity's type is looked at BEFORE the canonical-signature rule, which is a rule about the ECDSA
signatures of "orbitdb" identities (review of the F31 repair, fix: commit - applied before the type test it
refused every entry, the writer's own included, of an identity whose provider signs with another scheme) -/
theorem author_check_steps_tied_to_go_text : Gen.verifyAuthorOrder = Order.verifyAuthor := rfl

end Orbit.C04
