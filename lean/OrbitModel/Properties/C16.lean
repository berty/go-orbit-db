import OrbitModel.Proofs.EmitterFifo
import OrbitModel.Generated.GenWrite
import OrbitModel.Model.Order
import OrbitModel.Generated.GenLoadComplete
import OrbitModel.Proofs.EmitterSettle
import OrbitModel.Model.Store
import OrbitModel.Proofs.BusClose
import OrbitModel.Generated.GenSubClose
import OrbitModel.Model.GlobalChan
import OrbitModel.Generated.GenBus
/-!
# C16 — store events are ordered, lossless and never ahead of the state they announce

(a) `AddOperation` / `replicationLoadComplete` update the view before they emit. `Model/Store.lean` has
no events: a step function returns the state in which the Go function emits, and that the emit comes
last is checked on the Go text (`write_path_order_tied_to_go_text`). (b) the legacy channel API is the
two-goroutine transition system of `Model/Emitter.lean` (repaired: `pinned := false`).
-/
namespace Orbit.C16
open Orbit.Emit

/-- For every channel capacity and **every** interleaving of emits, forwarder steps, drainer steps,
receives and cancellation: what the subscriber has received is a prefix of what was emitted — never
out of order, never duplicated, nothing skipped — however slowly it reads. -/
theorem received_is_prefix_of_emitted (cap : Nat) (acts : List Act) :
    (run false (init cap) acts).delivered <+: (run false (init cap) acts).emitted :=
  (List.prefix_append _ _).trans (fifoInv_run acts (fifoInv_init cap)).2

/-- While the subscriber's context is alive nothing is lost: received ++ (channel, in-flight,
overflow queue, bus buffer) is exactly the emitted sequence. -/
theorem nothing_lost_while_alive (cap : Nat) (acts : List Act) :
    let s := run false (init cap) acts
    s.cancelled = false → s.delivered ++ pipeline s = s.emitted :=
  (fifoInv_run acts (fifoInv_init cap)).1

/-- …and, with capacity ≥ 1 and a live context, a subscriber that keeps reading gets everything
(canonical fair scheduler, explicit bound; why not capacity 0: `Proofs/EmitterSettle.lean`). -/
theorem slow_reader_eventually_gets_everything (cap : Nat) (hcap : 0 < cap) (acts : List Act) (n : Nat) :
    let s := run false (init cap) acts
    s.cancelled = false → 6 * (pipeline s).length + 2 ≤ n →
    let t := run false s (settle n)
    t.cancelled = false ∧ pipeline t = [] ∧ t.delivered = s.emitted := by
  intro s hal hn t
  have hG : Good s := ⟨hal, ctl_run false cap acts, (run_cap false (init cap) acts).symm ▸ hcap⟩
  have hGt := (run_potential_le (settle_quiet n) hG).1
  have h0 := settle_empties n s hG (Nat.le_trans (potential_bounds s).2 hn)
  have hp : pipeline t = [] := List.length_eq_zero_iff.mp (Nat.le_zero.mp (h0 ▸ (potential_bounds t).1))
  -- nothing pending in a live state: `Fifo` says that everything emitted has been delivered
  have hF : t.delivered ++ pipeline t = t.emitted :=
    (fifoInv_run (settle n) (fifoInv_run acts (fifoInv_init cap))).1 hGt.alive
  rw [hp, List.append_nil] at hF
  exact ⟨hGt.alive, hp, hF.trans (run_quiet_emitted (settle_quiet n))⟩

/-- when a local write is acknowledged the view of the resulting store is `updateIndex` of its log —
the defining equation of `Store.addOp0` — and that log holds the entry. The model has no event: that
`AddOperation` emits the write event only after the index update is `write_path_order_tied_to_go_text`. -/
theorem write_event_not_ahead_of_state (acl : Acl) (s : Store) (mk : Nat → List Nat → Entry) (e : Entry)
    (h : (s.addOp acl mk).2 = .ok e) :
    (s.addOp acl mk).1.idx = updateIndex s.kind s.idx (s.addOp acl mk).1.log ∧
    has (s.addOp acl mk).1.log.entries e.hash = true := by
  unfold Store.addOp Store.addOp0 at h ⊢
  unfold append at h ⊢
  by_cases hc : acl.canAppend (mk (appendTime s.log) (appendNext s.log)) = true
  · simp only [hc, if_true] at h ⊢
    simp only [Except.ok.injEq] at h
    subst h
    refine ⟨trivial, ?_⟩
    simp only [set]
    split
    · assumption
    · simp [has, List.any_append]
  · simp only [hc] at h
    simp at h

/-- Refutation witness for the pinned tree (finding F12, repaired): capacity 1, the drainer has taken
event 2 from the queue, the forwarder sends event 3 directly: delivered 1, 3, 2. Replayed on the real
emitter with the `emitter.dequeued` hook (corpus/C16). -/
theorem pinned_tree_reorders :
    (run true (init 1) overtakeSchedule).delivered = [1, 3, 2] ∧
    (run false (init 1) (overtakeSchedule ++ [.g2, .g2, .recv])).delivered = [1, 2, 3] := by
  decide

/-- the write path in the Go text of this run performs its effects in the order the models assume:
append and head persisted under the write mutex, THEN the view, THEN the write event -/
theorem write_path_order_tied_to_go_text : Gen.addOperationOrder = Order.addOperation ∧
    Gen.loadCompleteOrder = Order.loadComplete := ⟨rfl, rfl⟩

/-- **a legacy subscriber that unsubscribes never wedges the bus** (after the `fix:` commit, finding
F38): from the state its forwarder used to leave behind — subscription full, the emitter blocked
inside `emit` (holding the read lock `Close` needs), nobody reading — the drainer lets the emitter
through and `Close` returns, for every capacity ≥ 1 and every number of events still to send; before the
repair that state was a deadlock: no action of anybody ever changed it (every later `Emit` on the bus
and every later `Subscribe` then waits behind the pending writer) -/
theorem unsubscribing_never_wedges_the_bus (s : BusClose.St) (h : BusClose.Stuck s) (hcap : s.cap > 0) :
    ((BusClose.run true s (BusClose.unwind s.pending)).closed = true ∧
      (BusClose.run true s (BusClose.unwind s.pending)).pending = 0) ∧
    (∀ acts, BusClose.run false s acts = s) :=
  ⟨BusClose.close_gets_through s h hcap, BusClose.stuck_forever s h⟩

/-- the premise is reachable: the emitter fills a 2-slot subscription while the forwarder lags, the
context ends (on the real emitter: 16 slots, the forwarder held at its hook point — `ewedge`) -/
theorem the_wedged_state_is_reachable :
    BusClose.run false { cap := 2, pending := 3 } [.send, .send, .leave] =
      { cap := 2, chan := 2, pending := 1, reading := false, closing := true } ∧
    BusClose.Stuck { cap := 2, chan := 2, pending := 1, reading := false, closing := true } :=
  ⟨by decide, by unfold BusClose.Stuck; decide⟩

/-- the legacy forwarder of the Go text of this run keeps reading its subscription until `Close` has
returned -/
theorem forwarder_drains_while_it_closes_tied_to_go_text :
    Gen.subscriberCloseOrder = Order.subscriberClose := rfl

/-- **the legacy global channel**: whatever callers came and went before, a caller whose context is live
gets a channel whose context is live (after the `fix:` commit, finding F41) -/
theorem live_caller_gets_a_live_global_channel (s : GlobalChan.St) (ctx : Nat)
    (h : s.ended.contains ctx = false) :
    s.ended.contains (GlobalChan.globalChannel true s ctx).2 = false := by
  unfold GlobalChan.globalChannel
  cases hc : s.cur with
  | none => exact h
  | some c =>
    simp only [Bool.true_and]
    cases he : s.ended.contains c
    · simpa using he
    · simpa using h

/-- Refutation witness for the code before that repair: the channel created under the first caller's
context was handed out for ever; the second caller got it closed and lost every event (replayed on
the real emitter: `eglobal`, corpus/C16/f41) -/
theorem second_global_caller_got_the_closed_channel_before_the_fix :
    let s1 := (GlobalChan.globalChannel false {} 1).1
    let s2 := GlobalChan.«end» s1 1
    (GlobalChan.globalChannel false s2 2).2 = 1 ∧ s2.ended.contains (GlobalChan.globalChannel false s2 2).2 = true ∧
    (GlobalChan.globalChannel true s2 2).2 = 2 := by decide

/-- a store's legacy channel API listens on the bus the store emits on, also when that bus is the
default one: `InitBaseStore` of the Go text of this run calls `SetBus` on every path (finding F42: it
did so only for a bus given by the caller; the legacy subscribers of a store built with default
options never heard an event — replayed on the real store: `enilbus`, corpus/C16/f42) -/
theorem legacy_api_listens_on_the_stores_bus_tied_to_go_text : Gen.setBusUnconditional = true := by
  decide

end Orbit.C16
