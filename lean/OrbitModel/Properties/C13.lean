import OrbitModel.Proofs.SnapshotCodec
import OrbitModel.Proofs.SnapshotRT
import OrbitModel.Proofs.GenEqSnap
import OrbitModel.Proofs.SnapshotRace
import OrbitModel.Proofs.SnapshotRaceEx
import OrbitModel.Proofs.SnapshotFetch
import OrbitModel.Model.Store
import OrbitModel.Model.Order
/-!
# C13 — a snapshot either is refused with an error or loads back to the same log, heads and state

`Model/Snapshot.lean`: the byte framing of `SaveSnapshot` / `LoadFromSnapshot` (16-bit big-endian
record lengths), the rebuilt log and its join into a fresh store. The JSON of one entry is a
parameter `ser` with left inverse `de` (trusted: `encoding/json` round-trips an entry; sampled by the
snapshot family of the harness). What the harness adds: the unixfs file really is those bytes and the
real store's listing after `LoadFromSnapshot` is the model's (fields `save`, `load`, `reconstruct`).
-/
namespace Orbit.C13
open Orbit.Snap

/-- the record framing round-trips for every list of records that `save` does not refuse -/
theorem framing_round_trips (rs : List (List Nat)) (bs tl : List Nat) (h : encodeRecs rs = some bs) :
    decodeRecs rs.length (bs ++ tl) = some (rs, tl) := records_roundtrip rs bs tl h

/-- saving is refused exactly when the header or an entry does not fit a 16-bit length -/
theorem save_errors_exactly_when_a_record_is_too_long (ser : Entry → List Nat) (serHeader : Image → List Nat) (L : Log) :
    save ser serHeader L = none ↔
      65535 < (serHeader (imageOf L)).length ∨ ∃ e ∈ L.entries, 65535 < (ser e).length := by
  show written _ (L.entries.map ser) = none ↔ _
  simp only [written_none_iff, List.mem_map]
  exact or_congr_right ⟨fun ⟨_, ⟨e, he, h⟩, hl⟩ => ⟨e, he, h ▸ hl⟩, fun ⟨e, he, hl⟩ => ⟨_, ⟨e, he, rfl⟩, hl⟩⟩

/-- the two size guards of `SaveSnapshot` in the Go text of this run refuse exactly what `encodeRec` refuses -/
theorem size_guards_tied_to_go_text (r : List Nat) :
    Gen.genSnapEntryRefused r.length = (encodeRec r).isNone ∧
    Gen.genSnapHeaderRefused r.length = (encodeRec r).isNone := gen_snapRefused r

/-- **C13**: for every reachable (good) log whose entries the access controller accepts, saving
either reports an error, or writes a snapshot from which a fresh store rebuilds a log with exactly
the same entries, the same `Values()` (hence the same index: the index is a function of `Values()`,
C06/C07) and the same heads. -/
theorem save_errors_or_loads_back {U : List Entry} {acl : Acl} {ser : Entry → List Nat} {serHeader : Image → List Nat}
    {de : List Nat → Option Entry} {deHeader : List Nat → Option (Nat × List Entry × Nat)} {L : Log}
    (hde : ∀ e, de (ser e) = some e)
    (hdh : ∀ img, deHeader (serHeader img) = some (img.id, img.heads, img.entries.length))
    (hU : HashDet U) (hT : TieFree U) (hM : ClockMono U) (hG : Good U L)
    (hacc : ∀ e ∈ L.entries, acl.canAppend e = true ∧ e.sigOk = true)
    (hid : ∀ e ∈ L.entries, e.logId = L.id) :
    save ser serHeader L = none ∨
    ∃ bs L', save ser serHeader L = some bs ∧ load acl de deHeader bs = some L' ∧
      (∀ e, e ∈ L'.entries ↔ e ∈ L.entries) ∧ values L' = values L ∧ sortedHeads L' = sortedHeads L := by
  cases hs : save ser serHeader L with
  | none => exact Or.inl rfl
  | some bs =>
    obtain ⟨L', h1, h2, h3, h4⟩ := save_load (fun e _ => hde e) (hdh _) hU hT hM hG hacc hid hs
    exact Or.inr ⟨bs, L', rfl, h1, h2, h3, h4⟩

/-- **"for every database state" includes a store that is being written to**: `SaveSnapshot` takes no
lock and reads the heads (state `L1`), then the length (`L2`), then the entries (`L3`) of a log that
may grow at its end in between. Whatever arrives meanwhile, a snapshot that is written loads back as
exactly the state at the first read — same entries, `Values()` and heads as `L1` — provided nothing
that arrived before the length was read fills a hole of `L1` (`hclosed`; automatic for a log
without holes, `saveRacing_load_closed`; with a hole filled the snapshot loads as a consistent
larger log, `Snap.Example.hole_filled_is_loaded`). -/
theorem snapshot_written_while_the_log_grows_loads_back {U : List Entry} {acl : Acl} {ser : Entry → List Nat}
    {serHeader : Image → List Nat} {de : List Nat → Option Entry}
    {deHeader : List Nat → Option (Nat × List Entry × Nat)} {L1 L2 L3 : Log} {x y : List Entry}
    {bs : List Nat}
    (hde : ∀ e, de (ser e) = some e)
    (hdh : ∀ img, deHeader (serHeader img) = some (img.id, img.heads, img.entries.length))
    (hU : HashDet U) (hT : TieFree U) (hM : ClockMono U) (hG : Good U L1)
    (hacc : ∀ e ∈ L1.entries, acl.canAppend e = true ∧ e.sigOk = true)
    (h2 : L2.entries = L1.entries ++ x) (h3 : L3.entries = L2.entries ++ y)
    (hxU : ∀ e ∈ x, e ∈ U) (hid : ∀ e ∈ L2.entries, e.logId = L1.id)
    (hclosed : ∀ p ∈ L1.entries, ∀ c ∈ x, c.hash ∈ p.next → c ∈ L1.entries)
    (hs : saveRacing ser serHeader L1 L2 L3 = some bs) :
    ∃ L', load acl de deHeader bs = some L' ∧ (∀ e, e ∈ L'.entries ↔ e ∈ L1.entries) ∧
      values L' = values L1 ∧ sortedHeads L' = sortedHeads L1 :=
  saveRacing_load (fun e _ => hde e) (hdh _) hU hT hM hG hacc h2 h3 hxU hid hclosed hs

/-- **the same, for the loader as the Go port performs it** (`loadFetching`; the filter the port applies to
what it fetched — F47, below — is not part of `loadFetching`): `ipfslog.NewFromJSON`
does not use the records, it fetches the ancestry of the recorded heads out of IPFS. On a node that
holds the blocks of the saved log — the fetch returns the log's entries, `hf` — saving reports an
error or the fresh store rebuilds the same entries, `Values()` and heads. (The records are still
decoded: a record that cannot be read back fails the load, which is why the size guards matter.) -/
theorem save_errors_or_loads_back_through_the_fetcher {U : List Entry} {acl : Acl} {ser : Entry → List Nat}
    {serHeader : Image → List Nat} {de : List Nat → Option Entry}
    {deHeader : List Nat → Option (Nat × List Entry × Nat)} {L : Log} (fetchAll : List Entry → List Entry)
    (hf : fetchAll (sortedHeads L) = L.entries)
    (hde : ∀ e, de (ser e) = some e)
    (hdh : ∀ img, deHeader (serHeader img) = some (img.id, img.heads, img.entries.length))
    (hU : HashDet U) (hT : TieFree U) (hM : ClockMono U) (hG : Good U L)
    (hacc : ∀ e ∈ L.entries, acl.canAppend e = true ∧ e.sigOk = true)
    (hid : ∀ e ∈ L.entries, e.logId = L.id) :
    save ser serHeader L = none ∨
    ∃ bs L', save ser serHeader L = some bs ∧ loadFetching acl de deHeader fetchAll bs = some L' ∧
      (∀ e, e ∈ L'.entries ↔ e ∈ L.entries) ∧ values L' = values L ∧ sortedHeads L' = sortedHeads L := by
  rcases save_errors_or_loads_back (acl := acl) hde hdh hU hT hM hG hacc hid with hs | ⟨bs, L', hs, h1, h2⟩
  · exact Or.inl hs
  · refine Or.inr ⟨bs, L', hs, ?_, h2⟩
    rw [loadFetching_save fetchAll hf (fun e _ => hde e) (hdh (imageOf L)) hs]
    exact h1

/-- … and a snapshot written while the log grew: the fetcher follows the heads of the FIRST read, so
the fresh store rebuilds exactly that state, whatever was appended during the save — here without
the "no hole is filled" proviso of the record-based reading, because what arrived later is never
looked at -/
theorem snapshot_written_while_the_log_grows_loads_back_through_the_fetcher {U : List Entry} {acl : Acl}
    {ser : Entry → List Nat} {serHeader : Image → List Nat} {de : List Nat → Option Entry}
    {deHeader : List Nat → Option (Nat × List Entry × Nat)} {L1 L2 L3 : Log} {y : List Entry}
    {bs : List Nat} (fetchAll : List Entry → List Entry)
    (hf : fetchAll (sortedHeads L1) = L1.entries)
    (hde : ∀ e, de (ser e) = some e)
    (hdh : ∀ img, deHeader (serHeader img) = some (img.id, img.heads, img.entries.length))
    (hU : HashDet U) (hT : TieFree U) (hM : ClockMono U) (hG : Good U L1)
    (hacc : ∀ e ∈ L1.entries, acl.canAppend e = true ∧ e.sigOk = true)
    (hid : ∀ e ∈ L1.entries, e.logId = L1.id)
    (h3 : L3.entries = L2.entries ++ y)
    (hs : saveRacing ser serHeader L1 L2 L3 = some bs) :
    ∃ L', loadFetching acl de deHeader fetchAll bs = some L' ∧ (∀ e, e ∈ L'.entries ↔ e ∈ L1.entries) ∧
      values L' = values L1 ∧ sortedHeads L' = sortedHeads L1 := by
  obtain ⟨L', hj, hL'⟩ := rejoin_old hU hT hM (canAppend := acl.canAppend) hG hG.inv.sub
    (fun _ h => h) hid (fun _ _ _ h _ => h) hacc
  exact ⟨L', by rw [loadFetching_saveRacing fetchAll hf h3 (fun e _ => hde e) (hdh (racingImage L1 L2)) hs, hj],
    hL'⟩

/-- the save of a store at rest is the special case `L1 = L2 = L3` -/
theorem save_is_racing_save_at_rest (ser : Entry → List Nat) (serHeader : Image → List Nat) (L : Log) :
    save ser serHeader L = saveRacing ser serHeader L L L := rfl

/-- Why the ORDER of the three reads matters: were the entries read first and the length last (a
plausible tidy-up of the Go code), every snapshot saved while the log grew would be written without
an error and refused by the loader. -/
theorem reordered_reads_would_write_unloadable_snapshots {acl : Acl} {ser : Entry → List Nat}
    {serHeader : Image → List Nat} {de : List Nat → Option Entry}
    {deHeader : List Nat → Option (Nat × List Entry × Nat)} {L1 L2 L3 : Log} {bs : List Nat}
    (hdh : deHeader (serHeader (racingImage L2 L3)) = some (L2.id, sortedHeads L2, L3.entries.length))
    (hgrow : L1.entries.length < L3.entries.length)
    (hs : saveRacingReordered ser serHeader L1 L2 L3 = some bs) :
    load acl de deHeader bs = none := saveRacingReordered_load_none hdh hgrow hs

/-- Refutation witness for the pinned tree (finding F9a, repaired): a record of 65536 bytes was
written with length 0, so the saved snapshot does not load back; the repaired encoder refuses it.
Replayed on the real store (corpus/C13). -/
theorem pinned_tree_wrote_unloadable_snapshot (r tl : List Nat) (hr : r.length = 65536) :
    encodeRecPinned r = [0, 0] ++ r ∧
    decodeRecs 1 (encodeRecsPinned [r] ++ tl) = some ([[]], r ++ tl) ∧
    encodeRec r = none ∧ encodeRecs [r] = none := pinned_frame_wraps r tl hr

/-- `SaveSnapshot` in the Go text of this run reads heads, then length, then entries -/
theorem read_order_tied_to_go_text : Gen.saveSnapshotOrder = Order.saveSnapshot := rfl

/-- **the snapshot route hands `Join` only entries of this log that `Join` accepts** (after the `fix:`
commit, finding F47): the loader fetches the log again from the recorded heads — through every `next`
and `refs` link, so it reaches what the replicator had left out when it arrived — and keeps, like `Load`,
what `goodFetch` keeps. Before the repair the whole fetched log went to `Join`: an entry of another log
became a head (unverified), and one refused entry made `Join` refuse the snapshot as a whole — a
snapshot saved without error that could never be loaded. -/
theorem snapshot_route_joins_only_entries_join_accepts (acl : Acl) (id : Nat) (fetch : Nat → OMap) (h : Nat) :
    ∀ e ∈ goodFetch acl id fetch h, acceptable acl.canAppend e = true ∧ e.logId = id := by
  intro e he
  obtain ⟨_, hid, hacc, _⟩ := mem_goodFetch.mp he
  exact ⟨hacc, hid⟩

/-- Refutation witness for the loader as it was: writer 1's valid entry 3 names entry 2 — written for
ANOTHER log — in its `refs`; the replicator had dropped 2; loaded from the recorded head 3 without the
filter, 2 is a head of the store's log (replayed on the real store: the forge family saves and loads
snapshots, corpus/C13/f47); with it, 2 stays out -/
theorem foreign_entry_came_back_through_the_snapshot_before_the_fix :
    let w : Entry := { hash := 3, logId := 1, time := 3, cid := 1, next := [], refs := [2] }
    let f : Entry := { hash := 2, logId := 7, time := 2, cid := 9, next := [], ident := 9, key := 9 }
    let fetch : Nat → OMap := fun _ => [w, f]
    (∃ L, loadHead { wildcard := true } fetch (-1) (Log.empty 1) 3 = .ok L ∧ f ∈ L.heads) ∧
    (∃ L, loadHead { wildcard := true } (goodFetch { wildcard := true } 1 fetch) (-1) (Log.empty 1) 3 = .ok L ∧
      f ∉ L.heads ∧ f ∉ L.entries) := by
  refine ⟨⟨_, rfl, ?_⟩, ⟨_, rfl, ?_, ?_⟩⟩ <;> decide

/-- the loader of the Go text of this run applies its tests (own log, not held, canonical address, access,
signature) between rebuilding the log and joining it -/
theorem snapshot_loader_filters_tied_to_go_text : Gen.loadSnapshotOrder = Order.loadSnapshot := rfl

end Orbit.C13
