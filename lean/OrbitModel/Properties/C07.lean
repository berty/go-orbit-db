import OrbitModel.Model.Store
import OrbitModel.Proofs.History
import OrbitModel.Proofs.DocIndex
import OrbitModel.Generated.GenDocRead
import OrbitModel.Model.Order
/-!
# C07 — document store = last-writer-wins replay, including batch puts

`docUpdate` is the loop of `documentIndex.UpdateIndex` of the current tree (after the `fix:` commit that
marks each PUTALL *member* key as handled), over the map it is handed: a fresh one since the `fix:` commit
of F45. `docUpdatePinned` is the loop of the pinned tree, kept for the refutation witness. `docReplay`
treats a PUTALL as a put of each member.
-/
namespace Orbit.C07

theorem index_step (idx : KV) (vs vs' : List Entry) (hwf : DocWF vs')
    (hinv : KV.equiv idx (docReplay vs)) (hsub : ∀ e ∈ vs, e ∈ vs') :
    KV.equiv (docUpdate idx vs') (docReplay vs') := by
  rw [docReplay_eq] at hinv ⊢
  rw [docUpdate_eq]
  exact scanW_inv_step docW idx vs vs' (nodupW_docW hwf) hinv hsub

/-- At every step of every history of a replica, the document index — each update running over the index of the step
before, as the loop did until the `fix:` commit of F45 (`updateIndex0`; for the rebuilt map see
`documents_are_the_replay_of_the_listing`) — equals the replay of the current
listing — the latest operation on a document key wins whether it was a single put, a member of a
batch put, or a delete. `DocWF`: the members of one PUTALL have distinct keys (it is built from a Go map). -/
theorem index_tracks_replay {ca : Entry → Bool} {U : List Entry}
    (hU : HashDet U) (hT : TieFree U) (hM : ClockMono U) (id : Nat) (ls : List Log)
    (h : History ca U (Log.empty id) ls) (hwf : ∀ L ∈ ls, DocWF (values L)) :
    KV.equiv (ls.foldl (fun idx L => docUpdate idx (values L)) [])
             (docReplay (values ((Log.empty id :: ls).getLast (by simp)))) :=
  history_fold_inv hU hT hM index_step (good_empty U id) h [] (fun _ => rfl) hwf

/-- Refutation witness for the **pinned** tree (finding F1, repaired): a PUTALL member whose key an
older PUT also wrote keeps the older value; the repaired loop agrees with the replay. (The other
scenario of F1, a key deleted after a PUTALL that a later PUTALL cannot re-add, is the second half of
`Orbit.docPinned_witness`.) -/
theorem pinned_tree_violates :
    let a : Entry := { hash := 1, logId := 1, time := 1, cid := 0, next := [], op := .put "k" "v1" }
    let b : Entry := { hash := 2, logId := 1, time := 2, cid := 0, next := [1], op := .putAll [("k", "v2")] }
    KV.get (docUpdatePinned [] [a, b]) "k" = some "v1" ∧ KV.get (docReplay [a, b]) "k" = some "v2"
      ∧ KV.get (docUpdate [] [a, b]) "k" = some "v2" := docPinned_witness.1

/-- `Get` returns exactly the index keys that match (exact / case-insensitive / partial). -/
theorem get_returns_exactly_matching (idx : KV) (key : String) (ci pm : Bool) (k : String) :
    k ∈ docGetKeys idx key ci pm ↔ k ∈ idx.keys ∧
      (if pm then (if ci then lowerAscii key else key).toList <:+: (if ci then lowerAscii k else k).toList
       else (if ci then lowerAscii k else k) = (if ci then lowerAscii key else key)) :=
  docGetKeys_spec idx key ci pm k

/-- **the documents are the replay of what the log lists — whatever the log listed before** (after the
`fix:` commit, finding F45: the index is rebuilt into a fresh map; `index_step` needs "the listing
only grows", which a `Load` with a limit on a live store breaks) -/
theorem documents_are_the_replay_of_the_listing (idx : KV) (L : Log) (hwf : DocWF (values L)) :
    KV.equiv (updateIndex .doc idx L) (docReplay (values L)) :=
  docUpdate_eq_replay [] (values L) hwf (fun _ h => by cases h)

/-- Refutation witness for the index as it was: the document of an entry the log no longer lists
stayed; after the `fix:` commit it goes (corpus/C07/f45-trimmed-documents-stay.script) -/
theorem trimmed_document_stayed_visible_before_the_fix :
    KV.get (updateIndex0 .doc [("Doc-b", "x")] (Log.empty 1)) "Doc-b" = some "x" ∧
    KV.get (updateIndex .doc [("Doc-b", "x")] (Log.empty 1)) "Doc-b" = none := by decide

/-- **`Get` and `Query` answer from ONE state of the documents** — the one `get_returns_exactly_matching`
is stated over: in the Go text of this run both take the map `UpdateIndex` swapped in last (it is never
modified afterwards: F45) and read keys and values from it (after the `fix:` commit, finding F58; before it
the key list and each value were read in separate lock sections — a batch put landing in between gave one
document of the old batch and one of the new, a delete made `Get` fail; replayed on the real store with
the caller's filter as the meeting point: `doctorn`) -/
theorem reads_take_one_state_tied_to_go_text :
    Gen.docQueryOrder = Order.docRead ∧ Gen.docGetOrder = Order.docRead := ⟨rfl, rfl⟩

end Orbit.C07
