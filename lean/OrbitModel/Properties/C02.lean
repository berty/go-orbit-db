import OrbitModel.Proofs.NetConverge
import OrbitModel.Generated.GenWalk
import OrbitModel.Proofs.NetFinal
import OrbitModel.Proofs.NetExample
/-!
# C02 — after writes stop and peers reconnect, every replica receives every write

Set-level model (`Model/Net.lean`): replicas hold entries and cache heads; announcements and
exchange-on-join messages carry the sender's cached heads; any message may be lost, duplicated, delayed
or reordered; replicas may restart (reload from the cache). `Valid` is a hypothesis on every action: it
records what the store level guarantees (the cached heads cover the log — `heads_cover` in
`Proofs/Covers.lean`; handling a message whose entries are all accepted adds the ancestry of its heads —
the replicator run to quiescence). No theorem derives `Valid` from the store model: the link is by analogy.
-/
namespace Orbit.C02
open Orbit.Net

/-- For **any** prefix of writes, sends, deliveries (of any message, any number of times, in any
order), restarts and faults, followed by a final phase without writes in which every ordered pair
(i, j) has a send i→j that is later delivered (other actions may be interleaved freely), every action
`Valid` where it is executed (`ValidRun`): every replica holds every acknowledged write. Unbounded in
replicas, steps and messages. -/
theorem every_replica_gets_every_write (u : Univ) (n : Nat) (pre fin : List Act)
    (hv : ValidRun u (init n) (pre ++ fin)) (hf : FinalPhase u (run u (init n) pre) n fin) :
    ∀ r ∈ (run u (init n) (pre ++ fin)).reps, ∀ h ∈ (run u (init n) (pre ++ fin)).acked, h ∈ r.held :=
  converge_from_init u n pre fin hv hf

/-- a replica never loses an entry — not even across a restart (it reloads the ancestry of its cached
heads, which cover what it held: `Covers`) -/
theorem held_never_shrinks (u : Univ) (s : State) (a : Act) (hc : Covers u s) :
    ∀ (i : Nat) (r : Replica), s.reps[i]? = some r →
      ∃ r', (step u s a).reps[i]? = some r' ∧ ∀ x ∈ r.held, x ∈ r'.held :=
  ((step_next u s a).later hc).held

/-- the final-phase hypothesis is satisfiable from every state satisfying `Covers`, hence from every
reachable state: the canonical exchange is such a phase -/
theorem final_phase_exists (u : Univ) (s : State) (hc : Covers u s) :
    ∃ fin, ValidRun u s fin ∧ FinalPhase u s s.reps.length fin :=
  ⟨canonFinal u s, validRun_canon u s _ hc, finalPhase_canonFinal u s⟩

/-- the replicator of the Go text of this run looks at EVERY hash a fetched entry names (no early exit
from the loop that queues them), as the model's `fetched` does -/
theorem parent_walk_tied_to_go_text : Gen.parentWalkExits = 0 := rfl

end Orbit.C02
