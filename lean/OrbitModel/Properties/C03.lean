import OrbitModel.Proofs.Auth
import OrbitModel.Proofs.AuthExamples
import OrbitModel.Generated.GenResolve
/-!
# C03 — only authorised writers' entries ever enter a database

`Acl.canAppend` models `CanAppend` of the three access controllers after the `fix:` commit that added
`VerifyEntryAuthor` (entry key = identity key, identity block genuine). `AReachable` allows any content
in incoming logs (forged clocks, copied ids, foreign keys; no order hypothesis on the universe) as long as
the heads of an incoming log are among its entries and every entry carries this log's id (`AStep.joinOk`:
what the log-id filters of the repaired replicator and of `Load` let through).
-/
namespace Orbit.C03

/-- Every entry a replica ever lists — after any sequence of local appends (allowed or denied) and
joins of fetched logs of any content whose entries all carry this log's id and whose heads are among
their entries (`AStep.joinOk`; without the log-id filter `Join` lists an entry it never verified:
finding F4) — names an identity of the write list (or the list is the wildcard), is signed with that
identity's key (`key = ident`, genuine identity block, valid signature) and belongs to this database. -/
theorem visible_entries_are_authored_by_writers {acl : Acl} {U : List Entry} (hU : HashDet U)
    {id : Nat} {L : Log} (h : AReachable acl.canAppend U id L) :
    ∀ x ∈ values L, (acl.wildcard = true ∨ x.ident ∈ acl.ids) ∧ x.key = x.ident ∧
      x.identOk = true ∧ x.sigOk = true ∧ x.logId = L.id :=
  fun x hx => C03_traverse_authorised hU h _ x (List.mem_reverse.mp hx)

/-- the contrapositive, in the property's words: an entry whose author is not in the write list, or
that names a writer but is signed with another key, or whose identity block is not the writer's, is
in the log and in the listing of no replica reachable by those steps (`AReachable`). -/
theorem forged_or_unauthorised_never_visible {acl : Acl} {U : List Entry} (hU : HashDet U)
    {id : Nat} {L : Log} (h : AReachable acl.canAppend U id L) (x : Entry)
    (hbad : (acl.wildcard = false ∧ x.ident ∉ acl.ids) ∨ x.key ≠ x.ident ∨ x.identOk = false) :
    x ∉ L.entries ∧ x ∉ values L :=
  C03_unauthorised_absent hU h x hbad

/-- a local write by a non-writer fails with an error and changes nothing visible -/
theorem local_write_by_non_writer_fails (ca : Entry → Bool) (L : Log) (mk : Nat → List Nat → Entry)
    (hcan : ca (mk (appendTime L) (appendNext L)) = false) :
    (append ca L mk).2 = .error .denied ∧
    (append ca L mk).1.entries = L.entries ∧ (append ca L mk).1.heads = L.heads ∧
    (append ca L mk).1.nextIdx = L.nextIdx ∧ (append ca L mk).1.id = L.id ∧
    values (append ca L mk).1 = values L := by
  rw [append_denied hcan]; exact ⟨rfl, rfl, rfl, rfl, rfl, rfl⟩

/-- Refutation witness for the pinned tree (finding F3, repaired): the pinned `CanAppend` accepted an
entry naming writer 1 but signed with key 7; the repaired one rejects it. Replayed on the real code
(corpus/C03) before the fix. -/
theorem pinned_tree_accepts_copied_id :
    let acl : Acl := { ids := [1, 2] }
    let x : Entry := { hash := 5, logId := 9, time := 1, cid := 7, next := [], ident := 1, key := 7, identOk := false }
    acl.canAppendPinned x = true ∧ acl.canAppend x = false := by decide

/-- the reload route (`Load` after a restart): only entries written for this log are handed to
`Join` (after the `fix:` commit, finding F27) — an entry of another log named in a colluding writer's
`refs`, which `Join` would merge as a head without checking its author, does not come back -/
theorem reload_route_joins_only_this_logs_entries (id : Nat) (fetch : Nat → OMap) (h : Nat) :
    ∀ e ∈ ownFetch id fetch h, e.logId = id :=
  fun _ he => (mem_ownFetch.mp he).2

/-- in the Go text of this run an access controller that cannot be resolved ends `createStore` with
an error: no store is ever handed out under a fallback controller (whose write list would be the
opener's own identity) -/
theorem resolve_error_is_checked_tied_to_go_text : Gen.resolveErrChecked = true := rfl

end Orbit.C03
