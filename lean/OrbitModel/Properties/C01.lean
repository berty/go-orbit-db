import OrbitModel.Proofs.LogReach
import OrbitModel.Proofs.LogExample
/-!
# C01 — replicas holding the same entries show the same state in any arrival order
-/
namespace Orbit.C01

/-- Two replicas reached by any sequences of local appends and (honest, same-database) joins —
in any order, batching or duplication — that hold the same set of entries list them identically
and have the same heads, provided that among all the entries involved a hash names one entry, no two share
(time, clock id) and every entry is newer than those it links (`HashDet`, `TieFree`, `ClockMono`). Unbounded in
entries, writers, batches. -/
theorem same_entries_same_listing {ca1 ca2 : Entry → Bool} {U : List Entry}
    (hU : HashDet U) (hT : TieFree U) (hM : ClockMono U) {id1 id2 : Nat} {L1 L2 : Log}
    (h1 : Reachable ca1 U id1 L1) (h2 : Reachable ca2 U id2 L2)
    (h : ∀ x, x ∈ L1.entries ↔ x ∈ L2.entries) :
    values L1 = values L2 ∧ sortedHeads L1 = sortedHeads L2 :=
  have g1 := reachable_good hU hM h1
  have g2 := reachable_good hU hM h2
  ⟨values_unique hU hT hM L1 L2 g1.inv g1.nodup g2.inv g2.nodup h,
    sortedHeads_unique hT L1 L2 g1.inv g2.inv h⟩

end Orbit.C01

namespace Orbit.Example

/-- the theorem applies to the 3-entry fork of `Proofs/LogExample.lean` -/
example : values R1 = values R2 ∧ sortedHeads R1 = sortedHeads R2 :=
  C01.same_entries_same_listing hU hT hM reach_R1 reach_R2 same_entries

end Orbit.Example
