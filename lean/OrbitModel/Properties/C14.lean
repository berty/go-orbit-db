import OrbitModel.Proofs.Address
import OrbitModel.Proofs.OpenCreate
import OrbitModel.Proofs.OpenCreateOpen
import OrbitModel.Model.Params
/-!
# C14 — the address of a database is a function of (name, type, access controller) and round-trips

`Model/Path.lean`: `determine` (= `DetermineAddress` after the manifest has been hashed to `h`),
`parse`, `print`, Go's `path.Join`/`path.Clean` on segment lists. The manifest hash `H` (CID of the
dag-cbor manifest) is a parameter assumed injective (trusted: sha2-256 and the injectivity of the
manifest encoding; sampled by the address family: equal inputs on different peers give equal
addresses, field `addr`). Create/open refusals are decision logic compared on the real instance by the
same family.
-/
namespace Orbit.Params

/-- with the copy, a sequence of calls on one value is the sequence of calls on fresh copies of it -/
theorem run_copy (p : P) (calls : List (String × String)) :
    run useCopy p calls = calls.map (fun c => decide c.1 c.2 p) := by
  induction calls with
  | nil => rfl
  | cons c rest ih =>
    obtain ⟨cr, n⟩ := c
    simp only [run, useCopy, List.map_cons]
    rw [ih]

end Orbit.Params

namespace Orbit.C14
open Orbit.Path

/-- the address answered always names the manifest the inputs were hashed into -/
theorem address_root_is_the_manifest {isCid : String → Bool} {h name : String} {a : Addr}
    (hd : determine isCid h name = some a) : a.root = h := determine_root hd

/-- **different inputs give different addresses** (`H` injective) -/
theorem different_inputs_different_addresses {α : Type} {isCid : String → Bool} (H : α → String) (nameOf : α → String)
    (hH : ∀ x y, H x = H y → x = y) {x y : α} {a a' : Addr}
    (hx : determine isCid (H x) (nameOf x) = some a)
    (hy : determine isCid (H y) (nameOf y) = some a') (he : a = a') : x = y :=
  hH _ _ (by rw [← determine_root hx, ← determine_root hy, he])

/-- **the printed address parses back to the same root and path** -/
theorem printed_address_parses_back {isCid : String → Bool} {h name : String} {a : Addr}
    (hc : isCid h = true) (hh : Seg h) (hd : determine isCid h name = some a) :
    parse isCid (print a) = some a := determine_parse_print hc hh hd

/-- **whatever string `Open` accepts as an address names the database it prints as**: the printed
form (`String()`, which cleans) splits back to the same root — `address.Parse` after the `fix:` commit
refuses an address whose path climbs out of its root (finding F28) -/
theorem accepted_address_prints_as_the_same_database {isCid : String → Bool} {s : String} {a : Addr}
    (h : parse isCid s = some a) : ∃ b, parse0 isCid (print a) = some b ∧ b.root = a.root :=
  staysBelowRoot_iff.mp (parse_eq_some_iff.mp h).2

/-- Refutation witness for the tree before the repair of F28: `/orbitdb/@A/../@B/x` was split into root
`@A` (whose manifest — type and write list — the store was opened with) and path `../@B/x`, and the
store then printed its address as `/orbitdb/@B/x`: another database's address with `@A`'s write list
(replayed on the real code: corpus/C14/f28-climbing-address.script). `parse` refuses it. -/
theorem climbing_address_was_opened_as_another_database_before_the_fix :
    parse0 atCid "/orbitdb/@A/../@B/x" = some ⟨"@A", "../@B/x"⟩ ∧
    print ⟨"@A", "../@B/x"⟩ = "/orbitdb/@B/x" ∧
    parse atCid "/orbitdb/@A/../@B/x" = none := by decide +kernel

/-- exactly which names are accepted, and with what address -/
theorem accepted_names {isCid : String → Bool} {h : String} (hc : isCid h = true) (hh : Seg h)
    (name : String) (a : Addr) :
    determine isCid h name = some a ↔ isAddress isCid name = false ∧
      ∃ rest, cleanAbs (["orbitdb", h] ++ segments name) = "orbitdb" :: h :: rest ∧
        a = ⟨h, "/".intercalate rest⟩ := determine_eq_some_iff_cleanAbs hc hh name a

/-! ### Create / Open (`Model/OpenCreate.lean`: the decision logic of one instance, in the order of
the Go code; `H` = manifest hash, `net` = manifests retrievable from IPFS, `local` = databases with
local data). The driver runs this model on every `createdb` / `openaddr` line of the address family
and compares outcome, address, type and write list with the real instance. -/

/-- **creating over an existing local database is refused unless overwrite is requested**, and
the refusal leaves the local data as it was -/
theorem create_over_existing_is_refused {isCid : String → Bool} {H : String → String → List String → String}
    (s : OC.St) (name ty : String) (o : OC.Opts) (a : Addr)
    (hd : (OC.determineAddr isCid H s name ty o.acl).1 = .ok a) (hl : a ∈ s.local) (ho : o.overwrite = false) :
    (OC.create isCid H s name ty o).1 = .error .exists ∧ (OC.create isCid H s name ty o).2.local = s.local := by
  rw [OC.create_refused_when_exists s name ty o a hd hl ho]
  exact ⟨rfl, rfl⟩

/-- **a local-only open of an unknown database is refused** and changes nothing -/
theorem local_only_open_of_unknown_is_refused {isCid : String → Bool} {H : String → String → List String → String}
    (s : OC.St) (addr : String) (o : OC.Opts) (a : Addr)
    (hp : parse isCid addr = some a) (hl : a ∉ s.local) (hlo : o.localOnly = true) :
    OC.open isCid H s addr o = (.error .notLocal, s) := OC.open_unknown_localonly_refused s addr o a hp hl hlo

/-- **opening an address yields a store of the recorded type whose write list is the recorded one**,
whatever options the opener passes (never `options.StoreType`, never `options.AccessController`) -/
theorem open_yields_recorded_type_and_write_list {isCid : String → Bool} {H : String → String → List String → String}
    (s : OC.St) (addr : String) (o : OC.Opts) (a : Addr) (out : OC.Out)
    (hp : parse isCid addr = some a) (h : (OC.open isCid H s addr o).1 = .ok out) :
    ∃ m, OC.fetch s.net a.root = some m ∧ out = (a, m.type, m.acl) :=
  let ⟨m, hm, ho, _⟩ := OC.open_ok hp h
  ⟨m, hm, ho⟩

/-- **what Create returned is what every later Open returns**: on the same instance with any
options; on any other instance that can fetch the manifest (not local-only: the database is then recorded
there); and a local-only open on an instance without local data is refused -/
theorem create_then_open_anywhere {isCid : String → Bool} {H : String → String → List String → String}
    (s s' : OC.St) (name ty : String) (o : OC.Opts) (a : Addr) (ty' : String) (wl : List String)
    (hc : isCid (OC.recHash H s name ty o) = true) (hs : Seg (OC.recHash H s name ty o))
    (h : OC.create isCid H s name ty o = (.ok (a, ty', wl), s')) :
    (∀ o', OC.open isCid H s' (print a) o' = (.ok (a, ty', wl), s')) ∧
    (∀ s2 o', OC.fetch s2.net a.root = OC.fetch s'.net a.root → ty' ∈ s2.types → o'.localOnly = false →
      OC.open isCid H s2 (print a) o' = (.ok (a, ty', wl), OC.addLocal s2 a)) ∧
    (∀ s2 o', a ∉ s2.local → o'.localOnly = true →
      OC.open isCid H s2 (print a) o' = (.error .notLocal, s2)) :=
  OC.create_then_open_same s s' name ty o a ty' wl hc hs h

/-- **a database obtained through `Open` exists locally from then on** (after the `fix:` commit,
finding F53): once a non-local-only `Open` of an address (in its printed spelling) has succeeded, a local-only `Open` of the same
address on that instance succeeds with the same type and write list — and (`create_over_existing_is_refused`)
a `Create` with the same inputs is refused unless overwrite is requested. Before the repair only
`Create` recorded the database: the replica was "unknown", and could be created again over itself. -/
theorem opened_database_exists_locally {isCid : String → Bool} {H : String → String → List String → String}
    (s : OC.St) (addr : String) (o o' : OC.Opts) (a : Addr) (out : OC.Out)
    (hp : parse isCid addr = some a) (hn : OC.Named isCid s a) (hca : parse isCid (print a) = some a)
    (h : (OC.open isCid H s addr o).1 = .ok out) :
    (OC.open isCid H (OC.open isCid H s addr o).2 addr o').1 = .ok out :=
  -- `hn` is not needed: an `Open` that succeeded has passed the name test
  OC.open_remote_then_localonly_succeeds s addr o o' a out hp hca h

/-- the address Create returns is `determine` of the manifest hash of (name, type, write list) -/
theorem create_address_is_determined_by_inputs {isCid : String → Bool} {H : String → String → List String → String}
    (s : OC.St) (name ty : String) (o : OC.Opts) (out : OC.Out)
    (hc : isCid (OC.recHash H s name ty o) = true) (hs : Seg (OC.recHash H s name ty o))
    (h : (OC.create isCid H s name ty o).1 = .ok out) :
    determine isCid (H name ty (OC.effAcl s.self o.acl)) name = some out.1 ∧ out.2.1 = ty ∧
      out.2.2 = OC.effAcl s.self o.acl :=
  OC.create_address_eq_determine s name ty o out hc hs h

/-- Refutation witness for the pinned tree (finding F10, repaired): a name that climbs above its
root got the address of *another* database; the repaired code refuses it. (corpus/C14) -/
theorem pinned_tree_answered_a_foreign_address :
    determinePinned atCid "@H" "../@V/victim" = some ⟨"@V", "victim"⟩ ∧
    determinePinned atCid "@V" "victim" = some ⟨"@V", "victim"⟩ ∧
    determine atCid "@H" "../@V/victim" = none ∧
    determine atCid "@V" "victim" = some ⟨"@V", "victim"⟩ := by decide +kernel

/-- **an address is self-describing: behind the hash of a manifest only the name recorded in it opens**
(after the `fix:` commit, finding F52). Whatever the options (short of the local-only refusal, which
comes first): an address whose path is not the name its root's manifest was created for is refused and
nothing changes; the address `Create` returns always passes that test, on the creating instance
and on any other (`created_address_is_named` below, `create_then_open_anywhere` above). Before the repair
`/orbitdb/<root>/anything` opened as a database of its own — its own log id, cache and topic — built
from the manifest of another database. -/
theorem misnamed_address_is_refused {isCid : String → Bool} {H : String → String → List String → String}
    (s : OC.St) (addr : String) (o : OC.Opts) (a : Path.Addr) (m : OC.Manifest)
    (hp : Path.parse isCid addr = some a) (hf : OC.fetch s.net a.root = some m)
    (hn : OC.named isCid a m = false) (hlo : o.localOnly = false) :
    OC.«open» isCid H s addr o = (.error .nameMismatch, s) :=
  OC.open_misnamed_refused s addr o a m hp hf hn (fun h => by rw [hlo] at h; cases h)

/-- the address `DetermineAddress` gives for a name passes the name test against every manifest that
records that name -/
theorem created_address_is_named {isCid : String → Bool} {h name : String} {a : Path.Addr}
    (hc : isCid h = true) (hh : Path.Seg h) (hd : Path.determine isCid h name = some a)
    (m : OC.Manifest) (hm : m.name = name) : OC.named isCid a m = true :=
  OC.named_of_determine hc hh hd m hm

/-- "with none given, the creator's own id is the default" - for EVERY sequence of calls a caller makes with
ONE access controller parameters value, the empty one `{}` (whoever the creators are): each database's write list is its own
creator's id and its recorded name its own, because every call works on a copy of the caller's value
(`Params.useCopy`; findings F54, F59, fix: commits; `reuseac` step of the address family, where the driver
computes the expected write list with this model) -/
theorem default_writer_is_the_creator_whatever_the_value_was_used_for (calls : List (String × String)) :
    Params.run Params.useCopy {} calls =
      calls.map (fun c => { name := c.2, type := "ipfs", write := [c.1] }) := by
  rw [Params.run_copy]
  apply List.map_congr_left
  intro c _
  simp [Params.decide]

/-- the tree as it was (the call worked on the caller's value): the second database made from one value got
the first creator's id as its write list, and the first database's name -/
theorem shared_parameters_leaked_the_first_creator_before_the_fix :
    Params.run Params.useShared {} [("A", "one"), ("B", "two")] =
      [{ name := "one", type := "ipfs", write := ["A"] }, { name := "one", type := "ipfs", write := ["A"] }] ∧
    Params.run Params.useCopy {} [("A", "one"), ("B", "two")] =
      [{ name := "one", type := "ipfs", write := ["A"] }, { name := "two", type := "ipfs", write := ["B"] }] := by
  decide +kernel

end Orbit.C14
