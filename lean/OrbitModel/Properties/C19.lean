import OrbitModel.Proofs.StatusMono
import OrbitModel.Proofs.ClockBound
import OrbitModel.Proofs.GenEqStatus
import OrbitModel.Generated.GenWrite
import OrbitModel.Model.Order
import OrbitModel.Proofs.DecodeSafe
import OrbitModel.Generated.GenSnap
/-!
# C19 — replication progress never regresses and equals its maximum at rest

`recalcMax`/`recalcProgress` are proved equal to the Lean text regenerated from the Go functions on
every run (`Proofs/GenEqStatus.lean`), so these theorems are about the arithmetic in the Go text of this run.
-/
namespace Orbit.C19

/-- While a store is open (the status object starts at 0/0 and only the two update functions touch
it) progress and maximum never decrease between any two sampling moments, **whatever** the sequence
of write / load-added / load-progress / load-end events, log lengths and clock-time arguments. -/
theorem never_regresses (before after : List StEv) :
    (({} : Status).run before).progress ≤ (({} : Status).run (before ++ after)).progress ∧
    (({} : Status).run before).max ≤ (({} : Status).run (before ++ after)).max :=
  Status.run_append .. ▸ (run_mono _ (run_mono {} zero_ok before).1 after).2

/-- progress never exceeds the maximum -/
theorem progress_le_max (evs : List StEv) : (({} : Status).run evs).progress ≤ (({} : Status).run evs).max :=
  (run_mono {} zero_ok evs).1

/-- At rest: if every length and clock time seen is at most `n` and the last update was a full status
update at length `n`, then progress = maximum = `n`. That a complete log of `n` entries meets the
hypothesis is `at_rest_with_a_complete_log`. -/
theorem at_rest_equals_len (evs : List StEv) (n arg : Int) (hn : 0 ≤ n)
    (hb : ∀ e ∈ evs, e.len ≤ n ∧ e.arg ≤ n) (harg : arg ≤ n) :
    (({} : Status).run (evs ++ [.status n arg])).progress = n ∧
    (({} : Status).run (evs ++ [.status n arg])).max = n :=
  rest_eq_len evs n arg hn hb harg

/-- Refutation witness for the pinned tree (finding F15, repaired): previous maximum 10, log length 5,
argument 3 gave 5. Reached on the real store with three writers and a held fetch (corpus/C19). -/
theorem pinned_tree_max_regresses :
    (recalcMaxPinned 5 { progress := 3, max := 10 } 3).max = 5 ∧
    (recalcMax 5 { progress := 3, max := 10 } 3).max = 10 := by decide

/-- the Go functions, regenerated on this run, are the functions the theorems are about -/
theorem tied_to_go_text (len : Int) (s : Status) (arg : Int) :
    Gen.genRecalcMax len s.max s.progress arg = (recalcMax len s arg).max ∧
    Gen.genRecalcProgress len s.max s.progress = (recalcProgress len s).progress :=
  ⟨gen_recalcMax len s arg, gen_recalcProgress len s⟩

example : (({} : Status).run [.maxOnly 0 4, .status 1 1, .status 4 4]).progress = 4 := by decide

/-- the write path of the Go text of this run raises the status right after the append, before
anything that can still fail (head persistence, view update): a store never holds an entry its status
does not count -/
theorem status_raised_with_the_append_tied_to_go_text : Gen.addOperationOrder = Order.addOperation := rfl

/-- only heads written for THIS log reach the replicator (`Sync` after the `fix:` commit, finding
F21), so nothing that will never be merged is counted in the replication status -/
theorem foreign_heads_are_not_counted (acl : Acl) (id : Nat) (hs : List RawHead) (es : List Entry)
    (h : syncHeads acl id hs [] = .load es) : ∀ e ∈ es, e.logId = id := by
  intro e he
  obtain ⟨r, _, _, hl, _, _, rfl⟩ := syncHeads_loads_only_own_admitted acl id hs es h e he
  exact hl

/-- Refutation witness for the tree before that repair: a complete head written for another log by a
permitted writer was handed to the replicator (which counted it before dropping it); on the real store
it raised progress and maximum above the number of entries (corpus/C19/f21) -/
theorem foreign_head_was_counted_before_the_fix (e : Entry) (h : e.logId = 2) (hk : e.key = e.ident)
    (hi : e.identOk = true) (hh : e.hashOk = true) :
    syncHeadsLoadsForeign { wildcard := true } [{ entry := e }] [] = .load [e] ∧
    syncHeads { wildcard := true } 1 [{ entry := e }] [] = .load [] := by
  constructor
  · simp [syncHeadsLoadsForeign, syncHeads0, RawHead.complete, Acl.canAppend, hk, hi, hh]
  · simp [syncHeads, ownLog, RawHead.complete, h, syncHeads0]

/-- "that value lies between the largest Lamport time among its entries and the number of entries":
in a complete log (closed under `next`) of honestly clocked entries (`ClockTight`: each exactly one tick
above one of the entries it names, go-ipfs-log's `max(clock, heads) + 1` when the clock is the largest
head time) no clock time exceeds the number of entries, for every log size and shape.
`ClockTight` is a hypothesis, not a consequence of reachability: `append` advances the clock also when the
write is denied, and the next allowed entry is then two ticks above its parent, so histories with a denied
write before an allowed one are excluded here and in the two at-rest theorems below. -/
theorem clock_times_le_entry_count {U : List Entry} (hU : HashDet U) (hT : ClockTight U) {L : Log}
    (hs : ∀ e ∈ L.entries, e ∈ U) (hc : Closed L) : ∀ e ∈ L.entries, e.time ≤ L.entries.length :=
  time_le_length hU hT hs hc

/-- **At rest with a complete log, in the property's own terms**: the store has seen any sequence of
status events whose log lengths never exceeded the final length and whose clock arguments were
Lamport times of entries that are now IN the log (announced heads that arrived, fetched entries,
own writes) or zero; the log is complete (closed under `next`) and honestly clocked (`ClockTight`). Then
progress = maximum = number of entries, and no entry's Lamport time exceeds it — the hypothesis "every clock
argument ≤ n" of `at_rest_equals_len` is discharged from the log. -/
theorem at_rest_with_a_complete_log {U : List Entry} (hU : HashDet U) (hT : ClockTight U) {L : Log}
    (hs : ∀ e ∈ L.entries, e ∈ U) (hc : Closed L) (evs : List StEv) (arg : Int)
    (hlen : ∀ e ∈ evs, e.len ≤ (L.entries.length : Int))
    (hargs : ∀ e ∈ evs, e.arg ≤ 0 ∨ ∃ x ∈ L.entries, e.arg = (x.time : Int))
    (harg : arg ≤ 0 ∨ ∃ x ∈ L.entries, arg = (x.time : Int)) :
    let st := ({} : Status).run (evs ++ [.status L.entries.length arg])
    st.progress = L.entries.length ∧ st.max = L.entries.length ∧
      ∀ x ∈ L.entries, (x.time : Int) ≤ st.max := by
  have hle : ∀ x ∈ L.entries, (x.time : Int) ≤ (L.entries.length : Int) := fun x hx =>
    Int.ofNat_le.2 (time_le_length hU hT hs hc x hx)
  have hn : (0 : Int) ≤ (L.entries.length : Int) := Int.natCast_nonneg _
  have hbound : ∀ a : Int, (a ≤ 0 ∨ ∃ x ∈ L.entries, a = (x.time : Int)) → a ≤ (L.entries.length : Int)
    | _, .inl h0 => Int.le_trans h0 hn
    | _, .inr ⟨x, hx, rfl⟩ => hle x hx
  have h := rest_eq_len evs _ arg hn (fun e he => ⟨hlen e he, hbound _ (hargs e he)⟩) (hbound _ harg)
  exact ⟨h.1, h.2, fun x hx => Int.le_trans (hle x hx) (Int.le_of_eq h.2.symm)⟩

/-- A fresh store that loaded a snapshot (`LoadFromSnapshot` after the `fix:` commit, finding F23) whose
rebuilt log is complete and honestly clocked (`ClockTight`)
is at rest with progress = maximum = number of entries, and no entry's Lamport time is above it —
whatever else the snapshot file held (a snapshot written while the log grew holds records its heads
do not cover). -/
theorem at_rest_after_snapshot_load {U : List Entry} (hU : HashDet U) (hT : ClockTight U) {L : Log}
    (hs : ∀ e ∈ L.entries, e ∈ U) (hc : Closed L) :
    Snap.statusAfterLoad L.entries L = { progress := L.entries.length, max := L.entries.length } ∧
    ∀ e ∈ L.entries, (e.time : Int) ≤ (Snap.statusAfterLoad L.entries L).max := by
  have hle : ∀ e ∈ L.entries, (e.time : Int) ≤ (L.entries.length : Int) := fun e he =>
    Int.ofNat_le.2 (time_le_length hU hT hs hc e he)
  have hn : (0 : Int) ≤ (L.entries.length : Int) := Int.natCast_nonneg _
  have hmc := (Snap.maxClockOf_le L.entries _).2 ⟨hn, hle⟩
  have h := rest_eq_len [.maxOnly 0 (Snap.maxClockOf L.entries)] _ _ hn 
    (fun e he => List.mem_singleton.1 he ▸ ⟨hn, hmc⟩) hmc
  rw [← Snap.statusAfterLoad_eq_run] at h
  exact ⟨congr (congrArg Status.mk h.1) h.2, fun e he => h.2 ▸ hle e he⟩

/-- Refutation witness for the tree before that repair: the loader took the clock over every record
of the file; a snapshot written while the log grew from 3 to 4 entries (the heads of the 3-entry log
and 4 records) left the fresh store at 3/4 with a complete log of 3 entries (replayed on the real
store: corpus/C19/f23). -/
theorem snapshot_load_counted_unmerged_records_before_the_fix :
    let L : Log := { (Log.empty 1) with entries := [Snap.chainEntry 1, Snap.chainEntry 2, Snap.chainEntry 3] }
    Snap.statusAfterLoad [Snap.chainEntry 1, Snap.chainEntry 2, Snap.chainEntry 3, Snap.chainEntry 4] L = { progress := 3, max := 4 } ∧
    Snap.statusAfterLoad L.entries L = { progress := 3, max := 3 } := by
  decide

/-- the loader of the Go text of this run takes the clock over the entries of the rebuilt log, raises
the maximum, joins, refreshes the view and only then brings the status up to date -/
theorem snapshot_load_order_tied_to_go_text : Gen.loadSnapshotOrder = Order.loadSnapshot := rfl

/-- premises satisfiable: the chain e1 ← e2 ← e3 is honestly clocked and closed -/
example : ClockTight [Snap.chainEntry 1, Snap.chainEntry 2, Snap.chainEntry 3] ∧
    Closed { (Log.empty 1) with entries := [Snap.chainEntry 1, Snap.chainEntry 2, Snap.chainEntry 3] } := by
  unfold ClockTight Closed; decide

end Orbit.C19
