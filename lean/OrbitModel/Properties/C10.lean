import OrbitModel.Proofs.ReplC11
import OrbitModel.Generated.GenWalk
import OrbitModel.Generated.GenSync
import OrbitModel.Model.Order
import OrbitModel.Proofs.GenEqConsts
import OrbitModel.Proofs.ReplExamples
import OrbitModel.Proofs.ReplCheck
import OrbitModel.Proofs.AuthBatch
import OrbitModel.Proofs.DecodeSafe
import OrbitModel.Generated.GenFetched
/-!
# C10 — rejected entries never block replication of valid entries
-/
namespace Orbit.C10
open Orbit.Repl

/-- Replicator level: for every history without cancellation — announcements mixing rejected and
foreign heads with valid ones at any position, fetches completing or failing in any order — announcing
heads `hs` (again) and running to quiescence makes every accepted entry reachable from them through
accepted entries (`ReachV`) visible; rejected and foreign entries never enter the oplog. -/
theorem rejected_never_block {net : Nat → Info} {c : Nat} {U : List Nat} (hc : 0 < c)
    (hU : Closed net U) (acts : List Act) (ha : ActsIn U acts) (hnc : ∀ ctx, Act.cancel ctx ∉ acts)
    (ctx : Nat) (hs : List Nat) (hhs : ∀ h ∈ hs, h ∈ U) (n : Nat) :
    let s := run net { sem := c } acts
    fuelBound U s < n →
    let s' := drain net n (step net s (.load ctx hs))
    quiescent s' = true ∧ (∀ x, ReachV net hs x → x ∈ s'.log) ∧
    (∀ x ∈ s'.log, (net x).valid = true ∧ (net x).foreign = false) := by
  intro s hn
  obtain ⟨h0, hcl⟩ := clean_of_no_cancel (net := net) (c := c) hnc
  have hctx : s.cancelled.contains ctx = false := by rw [show s.cancelled = [] from h0]; rfl
  obtain ⟨r1, _, r3, r4⟩ :=
    one_request hc hU (inv_reachable net c acts) (stIn_reachable hU ha) hcl hctx hhs hn
  exact ⟨r1, r3, r4⟩

/-- `Sync` level (after its `fix:` commits, findings F18, F21, F22): only a complete head written for
this log, signed by the identity it names and admitted by the access controller is handed to the
replicator — so no fetch, which might never end because nobody serves the
block, is ever started on behalf of a non-writer. (The theorem above assumes every fetch ends.) -/
theorem refused_heads_are_never_fetched (acl : Acl) (id : Nat) (hs : List RawHead) (es : List Entry)
    (h : syncHeads acl id hs [] = .load es) :
    ∀ e ∈ es, ∃ r ∈ hs, r.complete = true ∧ r.entry.logId = id ∧ r.entry.sigOk = true ∧
      acl.canAppend r.entry = true ∧ r.entry = e :=
  syncHeads_loads_only_own_admitted acl id hs es h

/-- Refutation witness for the tree before the repair of finding F22: a head that names a writer
(anybody can copy a writer's identity block) but is not signed by it was handed to the replicator; on
the real store one such head pointing to a block nobody serves blocked every later replication
(corpus/C10/f22) -/
theorem badly_signed_head_was_fetched_before_the_fix (e : Entry) (h : e.logId = 1) (hk : e.key = e.ident)
    (hi : e.identOk = true) (hh : e.hashOk = true) (hs : e.sigOk = false) :
    syncHeads0 { wildcard := true } [{ entry := e }] [] = .load [e] ∧
    syncHeads { wildcard := true } 1 [{ entry := e }] [] = .load [] := by
  constructor
  · simp [syncHeads0, RawHead.complete, Acl.canAppend, hk, hi, hh]
  · simp [syncHeads, ownLog, RawHead.complete, h, hs, syncHeads0]

/-- Refutation witness for the tree before the repair of finding F18: the refused head was on the list
handed to the replicator; on the real store one such head whose block nobody serves blocked every
later replication (corpus/C10/f18) -/
theorem refused_head_was_fetched_before_the_fix (e : Entry) :
    syncHeadsLoadsRefused {} [{ entry := e }] [] = .load [e] ∧ syncHeads0 {} [{ entry := e }] [] = .load [] := by
  constructor <;> simp [syncHeadsLoadsRefused, syncHeads0, RawHead.complete, Acl.canAppend]

/-- Store level (`replicationLoadComplete` after its `fix:` commit): a batch of single-entry logs is
merged log by log; every acceptable entry of this database in the batch is merged whatever rejected
logs the batch contains and wherever they are. -/
theorem valid_entries_of_a_mixed_batch_are_merged (acl : Acl) (logs : List (OMap × OMap)) :
    ∀ (L : Log) (e : Entry), ([e], [e]) ∈ logs → e.logId = L.id →
      acceptable acl.canAppend e = true → has (joinAll acl L logs).entries e.hash = true :=
  joinAll_accepts acl logs

/-- Refutation witnesses for the pinned tree (finding F6, repaired): a rejected head first in the
batch aborted the merge; the valid entries stayed `fetched` and were never requested again — an honest
re-announcement brought nothing, a newer head only itself. -/
theorem pinned_tree_blocks_valid :
    let s1 := Ex.finishPinned Ex.s0 [.load 1 [9, 3]]
    let s2 := Ex.finishPinned s1 [.load 2 [3], .load 2 [4]]
    s1.log = [] ∧ quiescent s1 = true ∧ s2.log = [4] ∧ quiescent s2 = true := by decide +kernel

/-- `Sync` in the Go text of this run puts a head on the replicator's list only after the access
check, the local write and the hash check -/
theorem sync_order_tied_to_go_text : Gen.syncOrder = Order.sync := rfl

/-- the replicator of the Go text of this run fetches one entry per request (`batchSize`), which is
why every buffered log of the model holds a single entry -/
theorem batch_size_tied_to_go_text : Gen.batchSize = 1 := rfl

/-- the replicator of the Go text of this run looks at EVERY hash a fetched entry names (no early exit
from the loop that queues them), as the model's `fetched` does -/
theorem parent_walk_tied_to_go_text : Gen.parentWalkExits = 0 := rfl

/-- the steps of the replicator's `processHash` of the Go text of this run, in the order of
`Order.processHash`: a batch is buffered for `Join` only after the requested entry has come back, every
entry is of this log and sits at the address of its content; a check that could not be made ends the
request with an ERROR (it stays to be retried: `C11.later_request_completes`), it is not taken for the
verdict "wrong address" (finding F64, fix: commit - the entry was marked as fetched and never asked for
again) -/
theorem fetched_batch_steps_tied_to_go_text : Gen.processHashOrder = Order.processHash := rfl

end Orbit.C10

namespace Orbit.Repl.Ex

/-- the hypotheses can be met: `C10.rejected_never_block` after a mixed announcement processed in an arbitrary order -/
theorem c10_instance :
    let s := run net0 { sem := 2 } [.load 1 [9, 8, 3], .acquire 2, .acquire 0, .fetched 2, .fetched 0, .finish 2]
    ∀ x, ReachV net0 [9, 3, 8] x → x ∈ (drain net0 100 (step net0 s (.load 2 [9, 3, 8]))).log := by
  have h := C10.rejected_never_block (net := net0) (c := 2) (U := U0) (by decide) closed_U0
    [.load 1 [9, 8, 3], .acquire 2, .acquire 0, .fetched 2, .fetched 0, .finish 2]
    (actsIn_of_all (by decide)) (noCancel_of_all (by decide))
    2 [9, 3, 8] (by decide) 100 (by decide)
  exact h.2.1

end Orbit.Repl.Ex
