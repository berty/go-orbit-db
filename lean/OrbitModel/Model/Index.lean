import OrbitModel.Model.Log
/-!
# Store indices: key-value, document, event log (as written in `stores/*/index.go`)

The kv and document indices rebuild by scanning `Values()` newest → oldest with a `handled` set,
*mutating the map they are handed*. Since the `fix:` commit of finding F45 that map is a fresh one
(`updateIndex`, `Model/Store.lean`); before it, it was the previous view, never cleared (`updateIndex0`).
-/
namespace Orbit

/-- a Go `map[string][]byte` as an association list with unique keys (order not observable) -/
abbrev KV := List (String × String)

def KV.get (m : KV) (k : String) : Option String := (m.find? (fun p => p.1 == k)).map (·.2)
def KV.erase (m : KV) (k : String) : KV := m.filter (fun p => p.1 != k)
def KV.put (m : KV) (k v : String) : KV := (k, v) :: KV.erase m k
def KV.keys (m : KV) : List String := m.map (·.1)

/-- one iteration of the loop in `kvIndex.UpdateIndex` (state: handled set, index) -/
def kvStep (acc : List String × KV) (e : Entry) : List String × KV :=
  match e.op with
  | .put k v => if acc.1.contains k then acc else (k :: acc.1, KV.put acc.2 k v)
  | .del k   => if acc.1.contains k then acc else (k :: acc.1, KV.erase acc.2 k)
  | .putAll _ => if acc.1.contains "" then acc else ("" :: acc.1, acc.2)  -- key "" present, op neither PUT nor DEL
  | .add _ | .other => acc                                                   -- nil key: ignored

/-- `kvIndex.UpdateIndex`: `vs` is `Values()` (oldest first); scanned from the end -/
def kvUpdate (idx : KV) (vs : List Entry) : KV := (vs.reverse.foldl kvStep ([], idx)).2

/-- one member of a PUTALL in `documentIndex.UpdateIndex` **as fixed**: marks the member's key.
(The pinned tree marked `handled[""]` — the operation's key — instead; finding F1.) -/
def docAllStep (acc : List String × KV) (d : String × String) : List String × KV :=
  if acc.1.contains d.1 then acc else (d.1 :: acc.1, KV.put acc.2 d.1 d.2)

/-- the PUTALL member step of the pinned (defective) tree, kept for the refutation witness -/
def docAllStepPinned (acc : List String × KV) (d : String × String) : List String × KV :=
  if acc.1.contains d.1 then acc else ("" :: acc.1, KV.put acc.2 d.1 d.2)

def docStepWith (all : List String × KV → String × String → List String × KV)
    (acc : List String × KV) (e : Entry) : List String × KV :=
  match e.op with
  | .putAll docs => docs.foldl all acc
  | .put k v => if k == "" then acc else if acc.1.contains k then acc else (k :: acc.1, KV.put acc.2 k v)
  | .del k   => if k == "" then acc else if acc.1.contains k then acc else (k :: acc.1, KV.erase acc.2 k)
  | .add _ | .other => acc

def docUpdateWith (all : List String × KV → String × String → List String × KV) (idx : KV) (vs : List Entry) : KV := (vs.reverse.foldl (docStepWith all) ([], idx)).2
/-- `documentIndex.UpdateIndex` -/
def docUpdate (idx : KV) (vs : List Entry) : KV := docUpdateWith docAllStep idx vs
def docUpdatePinned (idx : KV) (vs : List Entry) : KV := docUpdateWith docAllStepPinned idx vs

/-! ### a PUTALL batch as it comes out of the JSON decoder

A writer is not bound to what the store API produces: `"docs":[null]` decodes to a batch with a nil
member. `operation.GetDocs` leaves nil members out (after the `fix:` commit, finding F25); before it
the member loop of `documentIndex.UpdateIndex` called `GetKey()` on the nil member, in the store's main
loop. -/

inductive BatchOutcome where
  | ok (acc : List String × KV)
  | panic
deriving DecidableEq, Repr

/-- the member loop over a decoded batch (`none` = a `null` member) -/
def docAllRaw (skipNil : Bool) (acc : List String × KV) : List (Option (String × String)) → BatchOutcome
  | [] => .ok acc
  | none :: rest => if skipNil then docAllRaw skipNil acc rest else .panic
  | some d :: rest => docAllRaw skipNil (docAllStep acc d) rest

/-- ASCII lower-casing (the generators stay ASCII; Go's `strings.ToLower` is Unicode-aware) -/
def lowerAscii (s : String) : String := s.map (fun c => if 'A' ≤ c ∧ c ≤ 'Z' then Char.ofNat (c.toNat + 32) else c)

def isInfix (needle hay : List Char) : Bool :=
  match hay with
  | [] => needle.isEmpty
  | _ :: t => needle.isPrefixOf hay || isInfix needle t

/-- `strings.Contains` -/
def strContains (hay needle : String) : Bool := isInfix needle.toList hay.toList

/-- `orbitDBDocumentStore.Get` for search keys without spaces: the matching index keys -/
def docGetKeys (idx : KV) (key : String) (caseInsensitive partialMatches : Bool) : List String :=
  let key := if caseInsensitive then lowerAscii key else key
  idx.keys.filter (fun ik =>
    let ik' := if caseInsensitive then lowerAscii ik else ik
    if partialMatches then strContains ik' key else ik' == key)

/-- query options of the event log store -/
structure StreamOpts where
  gt  : Option Nat := none
  gte : Option Nat := none
  lt  : Option Nat := none
  lte : Option Nat := none
  amount : Option Int := none
deriving Repr, Inhabited

/-- the `amount` normalisation in `query` -/
def normAmount (amount : Option Int) (len : Nat) : Nat :=
  match amount with
  | none => 1
  | some a => if a == 0 then 1 else if a > -1 then a.toNat else len

/-- `orbitDBEventLogStore.read` -/
def readWin (ops : List Entry) (hash : Option Nat) (amount : Nat) (inclusive : Bool) : List Entry :=
  let start := match hash with
    | none => 0
    | some h => match ops.findIdx? (fun e => e.hash == h) with | some i => i | none => 0
  let start := if inclusive then start else start + 1
  (ops.drop start).take amount

/-- `orbitDBEventLogStore.query` over the full listing `events` (oldest first) -/
def queryWin (events : List Entry) (o : StreamOpts) : List Entry :=
  let amount := normAmount o.amount events.length
  if o.gt.isSome || o.gte.isSome then
    let c := match o.gt with | some c => some c | none => o.gte
    readWin events c amount o.gte.isSome
  else
    let c := match o.lt with | some c => some c | none => o.lte
    (readWin events.reverse c amount (o.lte.isSome || o.lt.isNone)).reverse

/-- `orbitDBEventLogStore.read` as it is since the bound is looked up among ALL the entries of the log
(`isOp` = the payload parses as an operation): entries that are not operations are neither collected
nor counted, but one of them may be the bound -/
def readWinOps (isOp : Entry → Bool) (ops : List Entry) (hash : Option Nat) (amount : Nat)
    (inclusive : Bool) : List Entry :=
  let start := match hash with
    | none => 0
    | some h => match ops.findIdx? (fun e => e.hash == h) with | some i => i | none => 0
  let start := if inclusive then start else start + 1
  ((ops.drop start).filter isOp).take amount

/-- `orbitDBEventLogStore.query` over every entry of the log (oldest first), operations or not -/
def queryWinOps (isOp : Entry → Bool) (events : List Entry) (o : StreamOpts) : List Entry :=
  let amount := normAmount o.amount events.length
  if o.gt.isSome || o.gte.isSome then
    let c := match o.gt with | some c => some c | none => o.gte
    readWinOps isOp events c amount o.gte.isSome
  else
    let c := match o.lt with | some c => some c | none => o.lte
    (readWinOps isOp events.reverse c amount (o.lte.isSome || o.lt.isNone)).reverse

end Orbit
