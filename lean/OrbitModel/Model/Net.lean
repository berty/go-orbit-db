import OrbitModel.Model.Basic
/-!
# Replicas, head messages and faults at the set level   (C02)

A replica is the set of entries it holds plus the heads it has cached; what the code guarantees
about them (the store-level counterpart is `StoreCovers`, `Proofs/StoreCovers.lean`; no theorem instantiates this
model from it: the link is by analogy) is the field invariant
`cached heads cover the held set`. Messages carry heads; handling a message (Sync + replicator to
quiescence, nothing rejected, nothing cancelled, blocks fetchable) adds the ancestry of the heads.
Faults: messages may be dropped, duplicated, delayed and reordered arbitrarily (the soup is a list we
pick from and never have to consume), links cut and healed, replicas restarted.
-/
namespace Orbit.Net

/-- the universe: `anc h` = the ancestry (hashes) of entry `h`, itself included -/
structure Univ where
  anc : Nat → List Nat
  self_mem : ∀ h, h ∈ anc h
  trans : ∀ h x, x ∈ anc h → ∀ y, y ∈ anc x → y ∈ anc h

structure Replica where
  held  : List Nat := []      -- entries in the log
  heads : List Nat := []      -- cached `_localHeads ++ _remoteHeads`
deriving Repr

structure Msg where
  dst   : Nat
  heads : List Nat
deriving Repr

structure State where
  reps  : List Replica
  soup  : List Msg := []      -- every message ever sent (delivery picks any, any number of times)
  acked : List Nat := []      -- acknowledged writes

inductive Act where
  | write (i : Nat) (h : Nat)        -- replica i appends entry h (its ancestry is what i holds)
  | send (i j : Nat)                 -- announcement / exchange-on-join: i's cached heads go to j
  | recv (k : Nat) (cache : List Nat) -- the k-th message of the soup is handled by its destination, whose
                                     -- cached heads afterwards are `cache` (the merged log's heads: an input)
  | restart (i : Nat)                -- i reloads from its cache
  | fault                            -- cut / heal / drop / delay: no state change at this level

def ancAll (u : Univ) (hs : List Nat) : List Nat := hs.flatMap u.anc

def updRep (s : State) (i : Nat) (f : Replica → Replica) : State :=
  { s with reps := s.reps.mapIdx (fun k r => if k == i then f r else r) }

def step (u : Univ) (s : State) : Act → State
  | .write i h => match s.reps[i]? with
    | some _ =>
      let s := updRep s i (fun r => { held := h :: r.held, heads := h :: r.heads })
      { s with acked := h :: s.acked }
    | none => s                      -- no such replica: nothing is written, nothing acknowledged
  | .send i j => match s.reps[i]? with
    | some r => { s with soup := s.soup ++ [{ dst := j, heads := r.heads }] }
    | none => s
  | .recv k cache => match s.soup[k]? with
    | some m => updRep s m.dst (fun r => { held := r.held ++ ancAll u m.heads, heads := cache })
    | none => s
  | .restart i => updRep s i (fun r => { held := ancAll u r.heads, heads := r.heads })
  | .fault => s

/-- what the store level is taken to guarantee about an action in state `s` (a hypothesis of the C02 theorems;
its store-level counterparts are `heads_cover` and the replicator's `one_request`):
a write's ancestry is the writer's held set plus itself; after a merge the cached heads cover
everything held. -/
def Valid (u : Univ) (s : State) : Act → Prop
  | .write i h => ∀ r, s.reps[i]? = some r → (∀ x ∈ u.anc h, x = h ∨ x ∈ r.held) ∧ (∀ x ∈ r.held, x ∈ u.anc h)
  | .recv k cache => ∀ m, s.soup[k]? = some m → ∀ r, s.reps[m.dst]? = some r →
      ∀ x, (x ∈ r.held ∨ x ∈ ancAll u m.heads) → x ∈ ancAll u cache
  | _ => True

/-- every cached head list covers what the replica holds -/
def Covers (u : Univ) (s : State) : Prop := ∀ r ∈ s.reps, ∀ x ∈ r.held, x ∈ ancAll u r.heads

def run (u : Univ) (s : State) (acts : List Act) : State := acts.foldl (step u) s

end Orbit.Net
