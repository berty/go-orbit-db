import OrbitModel.Model.Store
/-!
# Persistence effects, crash = prefix, recovery = Load   (C05)

An execution of a store emits an ordered trace of effects: block writes (local appends write the
entry's block inside `Append`; the replicator writes a block when it has fetched it), cache writes
(`_localHeads` in `AddOperation`, `_remoteHeads` in `replicationLoadComplete`), and the two
*acknowledgement markers* the property speaks about (a write call returning, a `replicated` event).
Each effect is assumed durable and atomic once its call returns. A crash keeps a prefix of the trace.
-/
namespace Orbit

inductive Eff where
  | block       (h : Nat)            -- the block of entry `h` is written to the local block store
  | cacheLocal  (hs : List Nat)      -- cache.Put("_localHeads", hs)
  | cacheRemote (hs : List Nat)      -- cache.Put("_remoteHeads", hs)
  | ack         (h : Nat)            -- marker: the write call that created `h` returned success
  | replicated  (hs : List Nat)      -- marker: a `replicated` event was emitted for these entries
deriving DecidableEq, Repr

/-- what survives on disk -/
structure Disk where
  blocks : List Nat := []
  lheads : List Nat := []
  rheads : List Nat := []
deriving Repr

def Disk.apply (d : Disk) : Eff → Disk
  | .block h => { d with blocks := h :: d.blocks }
  | .cacheLocal hs => { d with lheads := hs }
  | .cacheRemote hs => { d with rheads := hs }
  | .ack _ => d
  | .replicated _ => d

def diskOf (tr : List Eff) : Disk := tr.foldl Disk.apply {}

/-- the effects of one store operation, in the order the code performs them -/
inductive SOp where
  | write (e : Entry)                         -- AddOperation creating `e`
  | fetched (e : Entry)                       -- the replicator fetched the block of `e`
  | merged (batch : List Entry) (heads : List Nat)  -- replicationLoadComplete: `batch` = entries of the logs it joined (`joinedEntries`); the log's heads are now `heads`

def SOp.effects : SOp → List Eff
  | .write e => [.block e.hash, .cacheLocal [e.hash], .ack e.hash]
  | .fetched e => [.block e.hash]
  | .merged batch heads => [.cacheRemote heads, .replicated (batch.map (·.hash))]

/-- the entries `replicationLoadComplete` reports in its `replicated` event:
`entries = append(entries, log.GetEntries()...)` is executed only for the logs whose `Join`
succeeded (a rejected log is skipped before it), each log being joined into the result of the
accepted joins before it -/
def joinedEntries (acl : Acl) (L : Log) : List (OMap × OMap) → List Entry
  | [] => []
  | (es, hs) :: rest =>
    match join acl.canAppend L es hs L.id with
    | .ok L' => es ++ joinedEntries acl L' rest
    | .error _ => joinedEntries acl L rest

/-- hashes reachable from `roots` through `next` links among entries of `U` whose block is on disk
(what `Load(-1)` rebuilds: `NewFromEntryHash` per cached head, then `Join`). The fuel `recover` passes counts
the cached heads and every `next` link of the universe (each pop is a head or a link of an expanded entry), and the
blocks besides, which the proof that it suffices does not need. -/
def reach (U : List Entry) (blocks : List Nat) : Nat → List Nat → List Nat → List Nat
  | 0, _, acc => acc
  | _+1, [], acc => acc
  | f+1, h :: rest, acc =>
    if acc.contains h || !blocks.contains h then reach U blocks f rest acc
    else match U.find? (fun e => e.hash == h) with
      | none => reach U blocks f rest acc
      | some e => reach U blocks f (e.next ++ rest) (h :: acc)

def recover (U : List Entry) (d : Disk) : List Nat :=
  reach U d.blocks (d.blocks.length + (U.flatMap (·.next)).length + d.lheads.length + d.rheads.length + 1) (d.lheads ++ d.rheads) []

end Orbit
