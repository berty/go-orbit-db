import OrbitModel.Model.Path
/-!
# `Create` / `Open` decision logic of one OrbitDB instance (`baseorbitdb/orbitdb.go`)   (C14)

UNSURE / deliberately abstracted (nothing below is guessed silently):

* U1. **`Open` does NOT write the `_manifest` cache key.** Only `Create` calls
  `addManifestToCache`; neither `Open` nor `createStore` does (the JS reference implementation
  calls `_addManifestToCache` in `open()` -- from memory, not checked here). So at the pinned commit
  `Open` left `local` unchanged: after a successful non-local `Open` of a remote database
  `haveLocalData` was still false and a later `LocalOnly` open was refused. Repaired (finding F53): `open`
  records the database through `record` (`open_remote_then_localonly_succeeds`).
* U2. **`DetermineAddress` writes to IPFS before any refusal.** It creates and saves the access
  controller and the database manifest (`CreateDBManifest` -> `io.WriteCBOR`) and only then parses
  the address / checks that the name stays below the root; `Create` checks "already exists" after
  that. `options.OnlyHash` is set to true by default and never read. So a refused `Create` (escaping
  name, existing database) has already put the manifest block into `net`. Modelled as such.
* U3. One cache directory. `Create` checks and writes the `_manifest` key in the cache of
  `o.directory`, while `Open` looks in `options.Directory` when it is given; with a
  `Directory` option different from the instance's, `Create(..., LocalOnly)` writes the key in one
  cache and `Open` looks for it in another (refused "database doesn't exist"). `local` is the cache of
  `o.directory`: a `Directory` option given to `Create` changes nothing in this model (the address
  family passes one in a third of its creations: the second `Create` is still refused); `Open` is
  modelled without the option.
* U4. Access controller. Only the write list is kept; the controller type is the default `"ipfs"`
  and is registered; `SkipManifest` is false. (With `SkipManifest` in `Open`'s options
  `ResolveManifest` takes the controller *type and parameters from the caller's options* instead of
  the stored manifest; for a controller type whose `Load` ignores the address this lets the opener
  choose the write list. Out of the model.) The access-controller blocks are retrievable whenever
  the database manifest is: `Manifest.acl` stands for manifest -> AC manifest -> write list.
* U5. An empty write list is replaced by `[identity.ID]` in `NewIPFSAccessController` BEFORE the
  controller is hashed: the address then depends on the instance's identity (`St.self`, `effAcl`).
* U6. `Overwrite`: nil and false behave the same (`Bool`); `StoreType`: nil and `""` behave the same
  (`String`). Nothing is ever deleted by `Overwrite := true`: it only skips the refusal.
* U7. At the pinned commit `Open` never compared the manifest's `name` with the address path (repaired,
  finding F52: the `named` test, `open_misnamed_refused`); it still does not compare the manifest's type
  with `options.StoreType` (silently opens with the manifest's type). Modelled as such.
* U8. After `Create` wrote the key it calls `Open(dbAddress.String())`. If that string were not a
  valid address, Go would call `Create` again (unbounded recursion when `options.Create` is set).
  This cannot happen when manifest hashes are CIDs without `/` (`determine_parse_print`); the model
  returns `Err.diverges` there so that every function is total without fuel.
* U9. IPFS reads that time out, cache I/O errors, an already-open store for the same address
  (`setStore` overwrites the map entry, no check), and store-constructor errors are not modelled.
* U10. Spellings. `haveLocalData` looks into the cache found by `datastoreKey` (a cleaned path), so
  two spellings of one address (`/orbitdb/<r>/x`, `/orbitdb/<r>/./x`) share their local data, while
  the model's `local` is a list of parsed addresses compared field by field. The two agree on the
  addresses `DetermineAddress` answers and on their printed forms (what `Create` and every honest
  caller use); for other spellings only the non-local-only `Open` is compared with the code.
-/
namespace Orbit.OC
open Orbit.Path

/-- `utils.Manifest` with the access controller resolved to its write list -/
structure Manifest where
  name : String
  type : String
  acl  : List String
deriving DecidableEq, Repr

inductive Err where
  | invalidType    -- `DetermineAddress`: "invalid database type"
  | nameIsAddress  -- "given database name is an address, give only the name of the database"
  | badName        -- the joined path does not parse / "does not stay below the database root"
  | exists         -- `Create`: "database %s already exists"
  | createFalse    -- `Open`: "'options.Create' set to 'false'..."
  | noType         -- `Open`: "database type not provided!"
  | notLocal       -- `Open`: "database doesn't exist: %s"
  | noManifest     -- `Open`: "unable to fetch database manifest"
  | nameMismatch   -- `Open`: "manifest '%s' cannot be opened as '%s'" (after the `fix:` commit, finding F52)
  | unsupported    -- `createStore`: "store type %s is not supported"
  | diverges       -- unreachable (U8)
deriving DecidableEq, Repr, Inhabited

/-- one OrbitDB instance -/
structure St where
  /-- `Identity().ID` -/
  self  : String
  /-- registered store types (`RegisterStoreType`) -/
  types : List String
  /-- databases whose cache holds the `_manifest` key (`haveLocalData`) -/
  «local» : List Addr
  /-- manifests retrievable from IPFS, by root hash; the first match is what is read -/
  net   : List (String × Manifest)
deriving DecidableEq, Repr

/-- the part of `CreateDBOptions` the decisions depend on (Go defaults) -/
structure Opts where
  localOnly : Bool := false
  create    : Bool := false
  storeType : String := ""
  overwrite : Bool := false
  /-- `AccessController` write list -/
  acl       : List String := []
deriving DecidableEq, Repr

/-- address, store type, write list of the store handed back -/
abbrev Out := Addr × String × List String

/-- `NewIPFSAccessController`: no writer given = only myself -/
def effAcl (self : String) (acl : List String) : List String := if acl.isEmpty then [self] else acl

/-- `io.ReadCBOR(root)` + decode -/
def fetch (net : List (String × Manifest)) (root : String) : Option Manifest := net.lookup root

/-- `haveLocalData` -/
def haveLocal (s : St) (a : Addr) : Bool := s.local.contains a

/-- `addManifestToCache` (a `Put` of the same key twice is one key) -/
def addLocal (s : St) (a : Addr) : St :=
  { s with «local» := if s.local.contains a then s.local else a :: s.local }

/-- `CreateDBManifest`: the block is written under its hash -/
def putNet (s : St) (h : String) (m : Manifest) : St := { s with net := (h, m) :: s.net }

section
variable (isCid : String → Bool) (H : String → String → List String → String)

/-- `DetermineAddress(name, storeType, {AccessController})`, in the order of the Go code: store
type registered; name not an address; access controller + manifest SAVED; then the joined path
must parse and keep the manifest hash as its root (`Path.determine`). -/
def determineAddr (s : St) (name ty : String) (acl : List String) : Except Err Addr × St :=
  if !s.types.contains ty then (.error .invalidType, s) else
  if isAddress isCid name then (.error .nameIsAddress, s) else
  let wl := effAcl s.self acl
  let h := H name ty wl
  let s1 := putNet s h ⟨name, ty, wl⟩
  match determine isCid h name with
  | some a => (.ok a, s1)
  | none => (.error .badName, s1)

/-- `Open` once the address has parsed: local-only check, manifest fetch, `createStore`.
The state is returned unchanged; `open` records the database afterwards (`record`). -/
def openValid (s : St) (a : Addr) (o : Opts) : Except Err Out × St :=
  if o.localOnly && !haveLocal s a then (.error .notLocal, s) else
  match fetch s.net a.root with
  | none => (.error .noManifest, s)
  | some m =>
    if !s.types.contains m.type then (.error .unsupported, s) else (.ok (a, m.type, m.acl), s)

/-- `Create(name, storeType, options)` -/
def create (s : St) (name ty : String) (o : Opts) : Except Err Out × St :=
  match determineAddr isCid H s name ty o.acl with
  | (.error e, s1) => (.error e, s1)
  | (.ok a, s1) =>
    if haveLocal s1 a && !o.overwrite then (.error .exists, s1) else
    let s2 := addLocal s1 a
    -- `return o.Open(ctx, dbAddress.String(), options)`
    match parse isCid (print a) with
    | some a' => openValid s2 a' o
    | none =>   -- U8: unreachable for well-formed hashes
      if !o.create then (.error .createFalse, s2)
      else if o.storeType == "" then (.error .noType, s2)
      else (.error .diverges, s2)

/-- the address names the database its manifest describes: the address rebuilt from the root and the
NAME recorded in the manifest prints as the address that is being opened -/
def named (a : Addr) (m : Manifest) : Bool :=
  match parse isCid (joinAddr a.root m.name) with
  | some a' => print a' == print a
  | none => false

/-- a store that came back from `Open` is recorded as existing locally (`addManifestToCache`, after the
`fix:` commit, finding F53: only `Create` used to record it — a database obtained through `Open`,
however fully replicated, was unknown to a later local-only `Open` and could be "created" again
without overwrite) -/
def record (a : Addr) (r : Except Err Out × St) : Except Err Out × St :=
  match r.1 with
  | .ok _ => (r.1, addLocal r.2 a)
  | .error _ => r

/-- the address as the cache key spells it: printed (that cleans the path) and parsed again (U10: the
code finds a local copy by the cleaned key, whatever spelling the caller used) -/
def canon (a : Addr) : Addr := (parse isCid (print a)).getD a

/-- `Open(dbAddress, options)`. After the local-only refusal and the manifest fetch (`openValid` has
both) an address whose path is not the name recorded in the manifest is refused (after the `fix:`
commit, finding F52: `/orbitdb/<root>/anything` opened as a database of its own — its own log id,
cache and topic — built from the manifest of the database really named by `<root>`). -/
def «open» (s : St) (addr : String) (o : Opts) : Except Err Out × St :=
  match parse isCid addr with
  | some a =>
    match fetch s.net a.root with
    | some m =>
      if !(o.localOnly && !haveLocal s a) && !named isCid a m then (.error .nameMismatch, s)
      else record (canon isCid a) (openValid s a o)
    | none => record (canon isCid a) (openValid s a o)
  | none =>
    if !o.create then (.error .createFalse, s)
    else if o.storeType == "" then (.error .noType, s)
    else create isCid H s addr o.storeType { o with overwrite := true }

/-- `Create(name, type, acl, overwrite)` with every other option at its default -/
def createDB (s : St) (name ty : String) (acl : List String) (overwrite : Bool) : Except Err Out × St :=
  create isCid H s name ty { acl := acl, overwrite := overwrite }

/-- `Open(addr, localOnly, create, storeType, overwrite)` with the default access controller -/
def openDB (s : St) (addr : String) (localOnly create : Bool) (storeType : String) (overwrite : Bool) :
    Except Err Out × St :=
  «open» isCid H s addr
    { localOnly := localOnly, create := create, storeType := storeType, overwrite := overwrite }

end

end Orbit.OC
