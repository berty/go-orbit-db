import OrbitModel.Model.Basic
/-!
# `Load` with a limit: fetching again when fetched entries were left out   (C15, finding F57)

The bounded fetcher applies the limit to everything it reaches. `Load` leaves out, of what was fetched,
the entries that are not part of the log (written for another log, refused by the access controller,
badly signed, at a wrong address); they must not count against the limit, so `Load` asks again — for as
many more as were left out, and at least twice as many as before (`nextLen`, finding F67) — until the limit
is met or the whole log has been fetched.
`fetchN n` is the fetcher asked for `n` entries, `good` the filter, `amount > 0` the limit.
-/
namespace Orbit.Refetch

/-- how many of the fetched entries `Load` leaves out -/
def refused (good : Entry → Bool) (F : OMap) : Nat := (F.filter (fun e => !good e)).length

/-- the loop's exit test for the fetch of length `len` -/
def done (fetchN : Nat → OMap) (good : Entry → Bool) (amount len : Nat) : Bool :=
  refused good (fetchN len) == 0 || (fetchN len).length < len ||
    (fetchN len).length - refused good (fetchN len) ≥ amount

/-- the length of the next fetch: as many more as were left out, and at least twice as many as before
(finding F67: growing by what was left out alone read a run of refused entries in rounds of 3, 5, 7 …) -/
def nextLen (amount len r : Nat) : Nat := if amount + r > 2 * len then amount + r else 2 * len

/-- the loop: the length it ends with (fuel = an upper bound on the number of rounds) -/
def loop (fetchN : Nat → OMap) (good : Entry → Bool) (amount : Nat) : Nat → Nat → Nat
  | 0, len => len
  | fuel+1, len =>
    if done fetchN good amount len then len
    else loop fetchN good amount fuel (nextLen amount len (refused good (fetchN len)))

/-- the loop as it is since the review of F57 (finding F63): what a round has found to belong to another
log is excluded from the next fetch, so the fetcher of round `k` is not the fetcher of round `k+1` -
`fs k` is the fetcher of round `k` (any dependence on what the earlier rounds found). The result is the
round the loop ends in and the length it ends with. -/
def loopR (fs : Nat → Nat → OMap) (good : Entry → Bool) (amount : Nat) : Nat → Nat → Nat → Nat × Nat
  | 0, k, len => (k, len)
  | fuel+1, k, len =>
    if done (fs k) good amount len then (k, len)
    else loopR fs good amount fuel (k + 1) (nextLen amount len (refused good (fs k len)))

end Orbit.Refetch
