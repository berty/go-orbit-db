import OrbitModel.Model.Index
import OrbitModel.Model.Status
/-!
# BaseStore as a step function (`stores/basestore/base_store.go`)

`AddOperation`, `Sync` (pre-check), `replicationLoadComplete`, `Load`, with the cache writes and
the replication-status updates in the order the code performs them.
-/
namespace Orbit

inductive Kind where | kv | doc | log
deriving DecidableEq, Repr, Inhabited

/-- write list of the access controller: identity ids, or the wildcard -/
structure Acl where
  wildcard : Bool := false
  ids : List Nat := []
deriving Repr, Inhabited

/-- `CanAppend` of the ipfs/simple/orbitdb controllers: membership of `identity.id` in the write
list (or `*`), then `VerifyEntryAuthor` (after the `fix:` commit): the entry's key is the identity's
key and the identity block is genuine. (`VerifyIdentity` of the dependency returns nil.) -/
def Acl.canAppend (a : Acl) (e : Entry) : Bool :=
  (a.wildcard || a.ids.contains e.ident) && e.key == e.ident && e.identOk

/-- the pinned tree's `CanAppend` (finding F3): only the id named by the entry is looked at -/
def Acl.canAppendPinned (a : Acl) (e : Entry) : Bool := a.wildcard || a.ids.contains e.ident

structure Store where
  kind        : Kind := .kv
  log         : Log := Log.empty 1
  idx         : KV := []
  status      : Status := {}
  localHeads  : Option (List Nat) := none     -- cache key `_localHeads`
  remoteHeads : Option (List Nat) := none     -- cache key `_remoteHeads`
  tasks       : List Nat := []                -- hashes the replicator has ever queued
deriving Repr, Inhabited

/-- `updateIndex` as it was before the `fix:` commit of finding F45: the key-value and document indices
patched the map the previous update had left (it was never cleared) -/
def updateIndex0 (k : Kind) (idx : KV) (L : Log) : KV :=
  match k with
  | .kv => kvUpdate idx (values L)
  | .doc => docUpdate idx (values L)
  | .log => idx

/-- `updateIndex`: the key-value and document views are rebuilt, into a FRESH map, from what the log
lists now — whatever the previous view was (a `Load` with a limit trims a live log: the keys of the
trimmed entries must go). The event log has no map. -/
def updateIndex (k : Kind) (idx : KV) (L : Log) : KV :=
  match k with
  | .kv => kvUpdate [] (values L)
  | .doc => docUpdate [] (values L)
  | .log => idx

/-- `AddOperation` as it was before the `fix:` commit of finding F33: Append → status → put
`_localHeads := [e]` → update index (→ emit write). On a store whose log holds its cached local
heads this is what the current code does (`addOp_eq_addOp0`). -/
def Store.addOp0 (acl : Acl) (s : Store) (mk : Nat → List Nat → Entry) : Store × Except Err Entry :=
  match append acl.canAppend s.log mk with
  | (L', .error e) => ({ s with log := L' }, .error e)
  | (L', .ok e) =>
    let st := recalcStatus L'.entries.length s.status e.time
    ({ s with log := L', status := st, localHeads := some [e.hash], idx := updateIndex s.kind s.idx L' }, .ok e)

/-- the cached heads (`cached`) the (possibly partially loaded) log `L` has no entry for -/
def keptHeads (cached : Option (List Nat)) (L : Log) : List Nat :=
  (cached.getD []).filter (fun h => !has L.entries h)

/-- `AddOperation`: Append → status → put `_localHeads` → update index (→ emit write). The heads
written are the new entry followed by the cached local heads the log has no entry for: the new entry
names the heads of the log IN MEMORY, which covers the cached local head only if the log holds it —
a store opened with `Load(n)` or `LoadFromSnapshot` may not (finding F33). What the log holds is
looked at BEFORE the append (finding F49: a head that a `Load` still running merges between the append
and the look is held, yet the new entry does not name it). -/
def Store.addOp (acl : Acl) (s : Store) (mk : Nat → List Nat → Entry) : Store × Except Err Entry :=
  match s.addOp0 acl mk with
  | (s', .error e) => (s', .error e)
  | (s', .ok e) => ({ s' with localHeads := some (e.hash :: keptHeads s.localHeads s.log) }, .ok e)

/-- outcome of the per-head pre-check loop of `Sync` on heads that carry this log's id and a valid signature -/
def syncPrecheck0 (acl : Acl) : List Entry → Err
  | [] => .ok
  | h :: hs => if !acl.canAppend h then syncPrecheck0 acl hs
               else if !h.hashOk then .hashMismatch else syncPrecheck0 acl hs

/-- the pre-check loop of `Sync` of the store whose log has id `id` (after the `fix:` commits, findings
F21 and F22): a head written for another log, or not signed by the identity it names, is skipped
like one the access controller refuses — skipping changes nothing, so it is the same as not having
received it — and the rest goes through `syncPrecheck0` -/
def syncPrecheck (acl : Acl) (id : Nat) (heads : List Entry) : Err :=
  syncPrecheck0 acl (heads.filter (fun h => h.logId == id && h.sigOk))

/-- joins of `replicationLoadComplete`: each log in turn; a rejected log is skipped (after the
`fix:` commit — the pinned tree aborted at the first error, see `joinAllPinned`) -/
def joinAll (acl : Acl) (L : Log) : List (OMap × OMap) → Log
  | [] => L
  | (es, hs) :: rest =>
    match join acl.canAppend L es hs L.id with
    | .ok L' => joinAll acl L' rest
    | .error _ => joinAll acl L rest

/-- `replicationLoadComplete(logs)` as it was before the `fix:` commit of finding F26: join, update
the index, put the heads of the merged log as `_remoteHeads`, update the status. On a store whose
log holds everything its cache points to this is what the current code does (`loadEnd_eq_loadEnd0`). -/
def Store.loadEnd0 (acl : Acl) (s : Store) (logs : List (OMap × OMap)) : Store :=
  let L' := joinAll acl s.log logs
  let idx := updateIndex s.kind s.idx L'
  let heads := (sortedHeads L').map (·.hash)
  let len : Int := L'.entries.length
  let st := if len > s.status.progress then recalcStatus len s.status len else s.status
  { s with log := L', idx := idx, remoteHeads := some heads, status := st }

/-- `replicationLoadComplete(logs)`: join, update the index, put `_remoteHeads`, update the status.
The heads written are the heads of the merged log followed by the cached remote heads the log has no
entry for (a store loaded with a limit does not hold everything its cache points to: what it does
not hold must stay reachable from the cache — finding F26). -/
def Store.loadEnd (acl : Acl) (s : Store) (logs : List (OMap × OMap)) : Store :=
  let s' := s.loadEnd0 acl logs
  { s' with remoteHeads := some ((sortedHeads s'.log).map (·.hash) ++ keptHeads s.remoteHeads s'.log) }

/-- `replicationLoadComplete(logs)` when the Put of `_remoteHeads` fails (a device error): the logs are
joined and the view is refreshed — both precede the Put — and the function returns: the cache and
the status stay as they were, and no `replicated` event is emitted (nothing is reported, so nothing
is owed after a restart; the next successful round rewrites the cache). -/
def Store.loadEndPutFailed (acl : Acl) (s : Store) (logs : List (OMap × OMap)) : Store :=
  let L' := joinAll acl s.log logs
  { s with log := L', idx := updateIndex s.kind s.idx L' }

/-- joins of the **pinned** `replicationLoadComplete` (finding F6, repaired): abort on the first
error, keeping the joins already done -/
def joinAllPinned (acl : Acl) (L : Log) : List (OMap × OMap) → Log × Bool
  | [] => (L, true)
  | (es, hs) :: rest =>
    match join acl.canAppend L es hs L.id with
    | .ok L' => joinAllPinned acl L' rest
    | .error _ => (L, false)

/-- the pinned `replicationLoadComplete(logs)` -/
def Store.loadEndPinned (acl : Acl) (s : Store) (logs : List (OMap × OMap)) : Store × Bool :=
  match joinAllPinned acl s.log logs with
  | (L', false) => ({ s with log := L' }, false)
  | (L', true) =>
    let idx := updateIndex s.kind s.idx L'
    let heads := (sortedHeads L').map (·.hash)
    let len : Int := L'.entries.length
    let st := if len > s.status.progress then recalcStatus len s.status len else s.status
    ({ s with log := L', idx := idx, remoteHeads := some heads, status := st }, true)

end Orbit

namespace Orbit

/-- One head of `Load(amount)` as it was after the F11 repair and before the F30 one:
`NewFromEntryHash(head, length = amount)` gives a log over the fetched entries (heads = `FindHeads`),
which is joined with a trim only when the ESTIMATE `Len() + new entries` exceeds the amount. On a log
with holes the estimate is above what `Join` will list, and the trim panics (`LoadExample.loadHead0_panic_nonclosed`). -/
def loadHead0 (acl : Acl) (fetch : Nat → OMap) (amount : Int) (L : Log) (h : Nat) : Except Err Log :=
  let l := logOfEntries L.id (fetch h)
  let merged : Int := L.entries.length + (l.entries.filter (fun e => !has L.entries e.hash)).length
  let size : Int := if amount > -1 && amount ≥ merged then -1 else amount
  match joinSize acl.canAppend L l.entries l.heads l.id size with
  | .ok L' => .ok L'
  | .error .panic => .error .panic
  | .error _ => .ok L            -- a failed join is ignored by `Load`

/-- One head of `Load(amount)` as it was after the F30 repair and before the F36 one (every fetched
entry handed to `Join`): the fetched log is joined
WITHOUT a trim; only when the merged log then LISTS more than `amount` entries is `Join(l, amount)`
called a second time. Joining the same log again finds nothing new, so that second call is modelled as
what is left of it: the trim of the listing to its last `amount` entries and the clock update
(assumption recorded in DESIGN §7: a `Join` that adds nothing leaves the heads as they are; provable
for logs that satisfy `Inv`, validated by the correspondence run on the others).
`fetch h` is the bounded Fetcher of go-ipfs-log (a parameter; contract in DESIGN §7). -/
def loadHead1 (acl : Acl) (fetch : Nat → OMap) (amount : Int) (L : Log) (h : Nat) : Except Err Log :=
  let l := logOfEntries L.id (fetch h)
  match joinSize acl.canAppend L l.entries l.heads l.id (-1) with
  | .ok L' =>
    if amount > -1 && (values L').length > amount then (trim L' amount.toNat).map bumpClock else .ok L'
  | .error .panic => .error .panic
  | .error _ => .ok L            -- a failed join is ignored by `Load`

/-- what `Load` keeps of a fetched log on a store that already holds a part of it: the entries the
log does NOT hold (after the `fix:` commit, finding F36). `Join` does not walk through held entries
(`difference` stops at them), so a fetched log whose head is held merged nothing of what lies below. -/
def missingFetch (L : Log) (fetch : Nat → OMap) (h : Nat) : OMap :=
  (fetch h).filter (fun e => !has L.entries e.hash)

/-- One head of `Load(amount)`: `loadHead1` over the fetched entries the log does not hold yet. On a
freshly opened store (the case of every restart) nothing is held and this is `loadHead1`
(`loadHead_empty`). -/
def loadHead (acl : Acl) (fetch : Nat → OMap) (amount : Int) (L : Log) (h : Nat) : Except Err Log :=
  loadHead1 acl (missingFetch L fetch) amount L h

/-- the pinned tree: `Join(l, amount)` whatever the sizes (finding F11) -/
def loadHeadPinned (acl : Acl) (fetch : Nat → OMap) (amount : Int) (L : Log) (h : Nat) : Except Err Log :=
  let l := logOfEntries L.id (fetch h)
  match joinSize acl.canAppend L l.entries l.heads l.id amount with
  | .ok L' => .ok L'
  | .error .panic => .error .panic
  | .error _ => .ok L

def loadHeadsWith (step : Log → Nat → Except Err Log) : Log → List Nat → Except Err Log
  | L, [] => .ok L
  | L, h :: hs => match step L h with
    | .ok L' => loadHeadsWith step L' hs
    | .error e => .error e

def loadHeads (acl : Acl) (fetch : Nat → OMap) (amount : Int) : Log → List Nat → Except Err Log :=
  loadHeadsWith (loadHead acl fetch amount)

/-- the `amount` normalisation of `Load`: `maxHistory` replaces a non-positive amount when set; a
non-positive amount then means "everything" (`-1`) -/
def loadAmount (amount : Int) (maxHistory : Option Int) : Int :=
  let a := if amount ≤ 0 then (match maxHistory with | some m => m | none => amount) else amount
  if a ≤ 0 then -1 else a

/-- what `Load` keeps of a fetched log: only the entries written for this log (after the `fix:`
commit, finding F27 — an entry of another log reached through a `refs` link was handed to `Join`,
which merges a foreign head without verifying it; the replicator has had the same filter since F4) -/
def ownFetch (id : Nat) (fetch : Nat → OMap) (h : Nat) : OMap := (fetch h).filter (fun e => e.logId == id)

/-- … and, of those, only the entries `Join` will accept (after the `fix:` commit, finding F29 — `Join`
refuses the WHOLE fetched log when one entry is refused by the access controller or badly signed, so a
valid entry whose ancestry holds a refused one, merged by the replicator, was gone after a restart) -/
def goodFetch1 (acl : Acl) (id : Nat) (fetch : Nat → OMap) (h : Nat) : OMap :=
  (ownFetch id fetch h).filter (acceptable acl.canAppend)

/-- … and only the entries whose address is the address of their content (after the `fix:` commit,
finding F46 — the decoder accepts every encoding of an entry and stamps it with the address it was
asked for: the same signed entry, written again with other bytes, was merged a second time under the
new address; `Sync` compared the re-encoded hash for announced heads only) -/
def goodFetch (acl : Acl) (id : Nat) (fetch : Nat → OMap) (h : Nat) : OMap :=
  (goodFetch1 acl id fetch h).filter (·.hashOk)

/-- `Load(amount)` on a freshly opened store: heads = cached local ++ remote heads, in that order
(the goroutines are serialised by `muJoining`; the order is an input). -/
def Store.load (acl : Acl) (s : Store) (fetch : Nat → OMap) (amount : Int) (maxHistory : Option Int := none) :
    Except Err Store :=
  let amount := loadAmount amount maxHistory
  let heads := (s.localHeads.getD []) ++ (s.remoteHeads.getD [])
  match loadHeads acl (goodFetch acl s.log.id fetch) amount s.log heads with
  | .error e => .error e
  | .ok L' =>
    let idx := if heads.isEmpty then s.idx else updateIndex s.kind s.idx L'
    let len : Int := L'.entries.length
    -- at rest: every fetched entry and every head went through recalculateReplicationStatus
    let st := if heads.isEmpty then s.status else { progress := len, max := len }
    .ok { s with log := L', idx := idx, status := st }

/-- `Load(amount)` with the check of the `fix:` commit of finding F32: a cached head whose block did not
come back from the fetcher (the context had ended, the block is unreachable) is an error, not an
empty contribution. `Store.load` is `Load` as it was before: the fetcher swallows its errors, and a
head that fetched nothing was silently skipped. -/
def Store.loadChecked (acl : Acl) (s : Store) (fetch : Nat → OMap) (amount : Int) (maxHistory : Option Int := none) :
    Except Err Store :=
  let heads := (s.localHeads.getD []) ++ (s.remoteHeads.getD [])
  if heads.any (fun h => !has (fetch h) h) then .error .notFound
  else s.load acl fetch amount maxHistory

/-- what a store holds after a `Load` that FAILED on a head (`loadChecked` = `.error .notFound`): the
goroutines of the heads that did come back have merged what they led to, and the view is rebuilt over
it before the error is returned (review of the F32 repair, `fix:` commit: it returned before
`updateIndex`, the log held the entries and `Get` answered nil). The cache is left as it is. -/
def Store.loadReadable (acl : Acl) (s : Store) (fetch : Nat → OMap) (amount : Int) : Store :=
  let back : Nat → Bool := fun h => has (fetch h) h
  let s' := { s with localHeads := s.localHeads.map (List.filter back), remoteHeads := s.remoteHeads.map (List.filter back) }
  match s'.load acl fetch amount with
  | .ok t => { t with localHeads := s.localHeads, remoteHeads := s.remoteHeads,
                      idx := updateIndex s.kind s.idx t.log }
  | .error _ => s

/-- the pinned `Load`: no normalisation of a zero amount, no size clamp -/
def Store.loadPinned (acl : Acl) (s : Store) (fetch : Nat → OMap) (amount : Int) : Except Err Store :=
  let heads := (s.localHeads.getD []) ++ (s.remoteHeads.getD [])
  match loadHeadsWith (loadHeadPinned acl fetch amount) s.log heads with
  | .error e => .error e
  | .ok L' => .ok { s with log := L', idx := if heads.isEmpty then s.idx else updateIndex s.kind s.idx L' }

/-- a restarted instance: same cache, everything else fresh -/
def Store.reopened (s : Store) : Store :=
  { kind := s.kind, log := Log.empty s.log.id, localHeads := s.localHeads, remoteHeads := s.remoteHeads }

end Orbit
