/-!
# Replication status arithmetic (`recalculateReplicationMax/Progress/Status`)

Hand-written form; `Generated/GenStatus.lean` is regenerated from the Go text on every run and proved
equal to this in `Proofs/GenEqStatus.lean`.
-/
namespace Orbit

structure Status where
  progress : Int := 0
  max      : Int := 0
deriving DecidableEq, Repr, Inhabited

/-- `recalculateReplicationMax(arg)` with `len = OpLog().Len()`: the largest of the argument, the
log length and the recorded maximum (after the `fix:` commit; see `recalcMaxPinned`). -/
def recalcMax (len : Int) (s : Status) (arg : Int) : Status :=
  let m := if len > arg then len else arg
  { s with max := if s.max > m then s.max else m }

/-- the pinned tree's version (finding F15): the recorded maximum is ignored whenever `len > arg` -/
def recalcMaxPinned (len : Int) (s : Status) (arg : Int) : Status :=
  { s with max := if len > arg then len else if s.max > arg then s.max else arg }

/-- `recalculateReplicationProgress()` -/
def recalcProgress (len : Int) (s : Status) : Status :=
  let m := s.max
  let m := if s.progress + 1 < m then s.progress + 1 else m
  let m := if len > m then len else m
  { s with progress := m }

/-- `recalculateReplicationStatus(arg)` -/
def recalcStatus (len : Int) (s : Status) (arg : Int) : Status :=
  recalcProgress len (recalcMax len s arg)

end Orbit
