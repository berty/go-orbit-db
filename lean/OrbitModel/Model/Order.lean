/-!
# The order of effects the models assume

Each model function performs the effects of a Go function in one fixed order. That order is a
modelling assumption about the code; it is written down here once and compared, on every run, with
the order regenerated from the Go text (`Generated/Gen*.lean`; the `…_tied_to_go_text` theorems of the
property files state the equalities).
-/
namespace Orbit.Order

/-- `BaseStore.AddOperation` (`Store.addOp`, `Model/Writers.lean`, `Model/ViewRace.lean`): under the
write mutex read the cached `_localHeads` (what the log does not hold of them — BEFORE the append: F49 — is kept: F33),
append to the log, raise the replication status right away (the entry is held from the
append on, whatever fails afterwards: C19) and persist the entry as `_localHeads`; then refresh the
view; only then emit the write event (C16: an event is never ahead of the state it announces; C17). -/
def addOperation : List String := ["lock", "prevheads", "append", "status", "headput", "index", "emit"]

/-- one cached head of `BaseStore.Load` (`Store.loadChecked`, `loadHead`, `missingFetch`, `goodFetch`): the
log is fetched; an ended context or a head that did not come back ends the load with an error (F32);
of the fetched entries only those of this log (F27) that the store does not hold yet (F36) and that
the access controller and the signature check accept (F29) and that sit at the address of their content (F46; the address is computed, not written: F64, F66) are kept; when a limit is set and what was left
out made the fetch keep too little, it is made again, longer - by what was left out, and at least twice as long (`Refetch.loopR`, `nextLen`: F57, F63, F67); they are merged WITHOUT a trim,
and the trim is asked for only once the listing is longer than the limit (F30); when a head has failed, the
view is rebuilt over what the others led to BEFORE the error is returned (`Store.loadReadable`, F61) -/
def loadJoin : List String := ["fetch", "ctxcheck", "headcheck", "ownlog", "held", "address", "addresserr", "addresscheck", "canappend", "verify", "enough", "again", "double", "merge", "listing", "trim", "headerr", "readable", "failed"]

/-- `events.handleSubscriber`, when its context ends (`BusClose`, `drain := true`): a goroutine keeps
reading the bus subscription, THEN `Close` is called, and only after it has returned is the reader
stopped — an emitter blocked on the full subscription holds the lock `Close` needs (F38) -/
def subscriberClose : List String := ["drain", "close", "stopdrain"]

/-- `replicator.processHash` (one fetched batch, `Repl` model + `goodFetch`): the fetch; the requested entry
must have come back (a fetch that brought nothing has FAILED: F8); every entry is of this log (F5) and
sits at the address of its content (F46) - the address is COMPUTED (`utils.EntryAddress`), nothing is
written, so the check cannot fail because of the node or the context (F64: such a failure was taken for the
verdict; then, F66: made an error, it let one unencodable block fail every Load); an entry without an
encoding is a verdict like a wrong address -; only then is the batch buffered for `Join` -/
def processHash : List String := ["fetch", "headcheck", "ownlog", "address", "addresserr", "addresscheck", "buffer"]

/-- `eventlogstore.Get`: the listing from the asked entry on, one entry long; BEFORE it answers, the entry
the listing handed back is compared with the one asked for - the listing skips an entry that is not an
operation and hands back the next one (`getOps_of_non_operation`, F69) -/
def logGet : List String := ["listing", "asked", "held", "answer"]

/-- `accesscontroller.VerifyEntryAuthor`: the entry is signed with the key of the identity it names; an
identity of another type is handed to its own provider, which answers for its signature scheme; only
THEN - for "orbitdb" identities, whose signatures are ECDSA - the canonical (low-S) form is required of
the entry's and the identity's signatures (F31), before the two identity signatures are verified.
(Review of F31: the low-S test came before the type test and refused every entry of an identity
whose signatures are not DER-encoded ECDSA, e.g. Ed25519.) -/
def verifyAuthor : List String := ["keymatch", "othertype", "provider", "lows", "idlows", "idsig", "keysig"]

/-- the document store's `Get` and `Query`: keys and values are read from ONE state of the view (the
map `UpdateIndex` swapped in last), not key list first and values one by one (F58) -/
def docRead : List String := ["onestate", "decode"]

/-- `eventlogstore.read`: the bound is looked up among ALL the entries (it may be one that is not an
operation), and the window collects, from there on, the entries whose payload is an operation (F48: the
listing used to end, silently, at the first entry that is not one) -/
def logQuery : List String := ["bound", "operations", "collect"]

/-- `oneonone` `monitorTopic` (`Connect.monitor`): a message read from the pairwise topic is handed on
only after the test that its sender is the peer the channel was opened for -/
def monitorTopic : List String := ["next", "fromtarget", "emit"]

/-- `pubsubcoreapi` `WatchMessages`: the subscription of the underlying pubsub is closed when the
goroutine that reads it ends (the `defer` precedes the read loop): the node leaves the topic with the
store (C18, C20) -/
def watchMessages : List String := ["subscribe", "close", "next"]

/-- `replicationLoadComplete` (`Store.loadEnd`): join every log of the batch, refresh the view, take
the heads of the MERGED log, persist them as `_remoteHeads`, then emit `replicated` (C05: what is
reported as replicated is already covered by the cached heads; C16). -/
def loadComplete : List String := ["join", "index", "heads", "headput", "emit"]

/-- `BaseStore.Close` (`Model/Lifecycle.lean`): the already-closed guard comes first, so that the
tear-down — which unregisters the store in its instance BY ADDRESS — runs at most once per handle; the
channels of the legacy API are ended with the store (F51); the main loop's subscription is closed BEFORE the
replicator is stopped (F55: a held-up main loop otherwise leaves an emitter blocked on the lock `Stop` needs). -/
def close : List String := ["guard", "cancel", "unregister", "releaseloop", "stop", "unsubscribe", "cacheclose"]

/-- one iteration of the loop of `BaseStore.Sync` (`syncHeads`): access check, local write of the
head, hash check, and only then the head is put on the list handed to the replicator. -/
def sync : List String := ["access", "write", "hashcheck", "loadable", "load"]

/-- `SaveSnapshot` (`Snap.saveRacing`): the three unlocked reads of the log, in the only order for
which a snapshot written while the log grows can be loaded. -/
def saveSnapshot : List String := ["heads", "len", "entries"]

/-- `LoadFromSnapshot` (`Snap.statusAfterLoad`, `goodFetch`): the log is rebuilt from the recorded heads —
fetched again, through every link — and, as in `Load`, only the entries of this log that the access
controller and the signature check accept are kept (F47); the
largest clock is taken over the entries of THAT log (not over every record of the file), the maximum
is raised, the log is joined, the view refreshed and the status brought up to date (C19). -/
def loadSnapshot : List String := ["rebuild", "ownlog", "held", "address", "addresscheck", "canappend", "verify", "count", "max", "join", "index", "status"]

/-- `oneonone.Connect` (`Connect.connectLocked`): the look-up of the peer, the `Subscribe` and the insert
happen under one hold of `muSubs` (the first `Unlock` in the text is the error path after `Subscribe`) -/
def connect : List String := ["lock", "subscribe", "unlock"]

/-- `oneonone.Connect`, the life of the per-peer channel: its context derives from the channels' own (not
from the caller's: every store of the instance shares the channel), the subscription is made under
it, and the subscription is closed when the monitor ends (F50) -/
def connectCtx : List String := ["chanctx", "subscribe", "leave"]

/-- `kvIndex.UpdateIndex` / `documentIndex.UpdateIndex` (`Model/ViewRace.lean`, `locked := true`): the
log is copied under the index lock. -/
def updateIndex : List String := ["lock", "copy"]

/-- `BaseStore.Load` (`Store.load`): the bytes cached under `_localHeads` are decoded into the local
heads, those under `_remoteHeads` into the remote heads, and the heads to load are the local ones
followed by the remote ones (C05: everything the cached heads cover comes back). -/
def loadDecodes : List (String × String) := [("localHeadsBytes", "localHeads"), ("remoteHeadsBytes", "remoteHeads")]
def loadHeads : String := "append(localHeads, remoteHeads...)"

end Orbit.Order
