import OrbitModel.Model.Basic
import OrbitModel.Model.Codec
import OrbitModel.Model.Decode
import OrbitModel.Model.Emitter
import OrbitModel.Model.Index
import OrbitModel.Model.Instance
import OrbitModel.Model.Lifecycle
import OrbitModel.Model.Log
import OrbitModel.Model.Net
import OrbitModel.Model.OpenCreate
import OrbitModel.Model.Order
import OrbitModel.Model.Path
import OrbitModel.Model.Persist
import OrbitModel.Model.Replicator
import OrbitModel.Model.Snapshot
import OrbitModel.Model.Status
import OrbitModel.Model.Store
import OrbitModel.Model.Trav
import OrbitModel.Model.ViewRace
import OrbitModel.Model.Writers
import OrbitModel.Spec.Replay
import OrbitModel.Proofs.Address
import OrbitModel.Proofs.AddressClean
import OrbitModel.Proofs.AddressSplit
import OrbitModel.Proofs.Auth
import OrbitModel.Proofs.AuthBatch
import OrbitModel.Proofs.AuthExamples
import OrbitModel.Proofs.BusClose
import OrbitModel.Proofs.ClockBound
import OrbitModel.Proofs.Connect
import OrbitModel.Proofs.Covers
import OrbitModel.Proofs.Crash
import OrbitModel.Proofs.CrashCor
import OrbitModel.Proofs.CrashExample
import OrbitModel.Proofs.CrashHist
import OrbitModel.Proofs.DecodeSafe
import OrbitModel.Proofs.DiffAll
import OrbitModel.Proofs.DocIndex
import OrbitModel.Proofs.Durable
import OrbitModel.Proofs.EmitterFifo
import OrbitModel.Proofs.EmitterSettle
import OrbitModel.Proofs.EmitterStep
import OrbitModel.Proofs.EmitterStop
import OrbitModel.Proofs.EntryOrder
import OrbitModel.Proofs.GenEqConsts
import OrbitModel.Proofs.GenEqFrame
import OrbitModel.Proofs.GenEqLoad
import OrbitModel.Proofs.GenEqQuery
import OrbitModel.Proofs.GenEqSnap
import OrbitModel.Proofs.GenEqStatus
import OrbitModel.Proofs.History
import OrbitModel.Proofs.IndexScan
import OrbitModel.Proofs.JoinAll
import OrbitModel.Proofs.JoinClosed
import OrbitModel.Proofs.JoinSingle
import OrbitModel.Proofs.KvIndex
import OrbitModel.Proofs.KvLemmas
import OrbitModel.Proofs.ListSet
import OrbitModel.Proofs.LoadChain
import OrbitModel.Proofs.LoadChecked
import OrbitModel.Proofs.LoadExamples
import OrbitModel.Proofs.LoadHead
import OrbitModel.Proofs.LoadLimit
import OrbitModel.Proofs.LoadNoPanic
import OrbitModel.Proofs.LoadRejoin
import OrbitModel.Proofs.LogAppend
import OrbitModel.Proofs.LogDiff
import OrbitModel.Proofs.LogExample
import OrbitModel.Proofs.LogJoin
import OrbitModel.Proofs.LogReach
import OrbitModel.Proofs.LogValues
import OrbitModel.Proofs.Members
import OrbitModel.Proofs.NetBasic
import OrbitModel.Proofs.NetConverge
import OrbitModel.Proofs.NetExample
import OrbitModel.Proofs.NetFinal
import OrbitModel.Proofs.OMap
import OrbitModel.Proofs.OpenCreate
import OrbitModel.Proofs.OpenCreateEx
import OrbitModel.Proofs.OpenCreateOpen
import OrbitModel.Proofs.PeersDiff
import OrbitModel.Proofs.Recover
import OrbitModel.Proofs.Refetch
import OrbitModel.Proofs.ReplBasic
import OrbitModel.Proofs.ReplC11
import OrbitModel.Proofs.ReplCheck
import OrbitModel.Proofs.ReplDrain
import OrbitModel.Proofs.ReplEnq
import OrbitModel.Proofs.ReplExamples
import OrbitModel.Proofs.ReplHist
import OrbitModel.Proofs.ReplInv
import OrbitModel.Proofs.ReplInvS
import OrbitModel.Proofs.ReplLive
import OrbitModel.Proofs.ReplMove
import OrbitModel.Proofs.ReplSplit
import OrbitModel.Proofs.ReplStep
import OrbitModel.Proofs.ReplTerm
import OrbitModel.Proofs.SnapshotCodec
import OrbitModel.Proofs.SnapshotFetch
import OrbitModel.Proofs.SnapshotRT
import OrbitModel.Proofs.SnapshotRace
import OrbitModel.Proofs.SnapshotRaceEx
import OrbitModel.Proofs.Stable
import OrbitModel.Proofs.StatusMono
import OrbitModel.Proofs.StoreCovers
import OrbitModel.Proofs.StoreReach
import OrbitModel.Proofs.Trav
import OrbitModel.Proofs.TravInv
import OrbitModel.Proofs.TravSort
import OrbitModel.Proofs.Trim
import OrbitModel.Proofs.Uvarint
import OrbitModel.Proofs.ViewRace
import OrbitModel.Proofs.Window
import OrbitModel.Proofs.WindowOps
import OrbitModel.Proofs.WritersInv
import OrbitModel.Properties.C01
import OrbitModel.Properties.C02
import OrbitModel.Properties.C03
import OrbitModel.Properties.C04
import OrbitModel.Properties.C05
import OrbitModel.Properties.C06
import OrbitModel.Properties.C07
import OrbitModel.Properties.C08
import OrbitModel.Properties.C09
import OrbitModel.Properties.C10
import OrbitModel.Properties.C11
import OrbitModel.Properties.C12
import OrbitModel.Properties.C13
import OrbitModel.Properties.C14
import OrbitModel.Properties.C15
import OrbitModel.Properties.C16
import OrbitModel.Properties.C17
import OrbitModel.Properties.C18
import OrbitModel.Properties.C19
import OrbitModel.Properties.C20
